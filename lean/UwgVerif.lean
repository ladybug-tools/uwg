/-
Default target: every module of the model (`Model`), of the tables regenerated from /repo (`Gen`), of the lemmas
(`Lemmas`) and of the property theorems (`Props`). A check builds `UwgVerif.Props.<X>` itself. The drivers
`Drv/*.lean` are programs run with `lake env lean --run`; only their shared line protocol `Drv.Proto` is imported.
-/
import UwgVerif.Model.AirNodes
import UwgVerif.Model.Bem
import UwgVerif.Model.Canyon
import UwgVerif.Model.Clock
import UwgVerif.Model.Conduction
import UwgVerif.Model.Csv
import UwgVerif.Model.Diffusion
import UwgVerif.Model.Driver
import UwgVerif.Model.EpwHeader
import UwgVerif.Model.Generate
import UwgVerif.Model.Hvac
import UwgVerif.Model.Json
import UwgVerif.Model.Lifecycle
import UwgVerif.Model.Morph
import UwgVerif.Model.NumTok
import UwgVerif.Model.ParamKinds
import UwgVerif.Model.Params
import UwgVerif.Model.Pipeline
import UwgVerif.Model.Procmat
import UwgVerif.Model.Psychro
import UwgVerif.Model.Reader
import UwgVerif.Model.RefLib
import UwgVerif.Model.RsmCoef
import UwgVerif.Model.Season
import UwgVerif.Model.Sim
import UwgVerif.Model.Solar
import UwgVerif.Model.Step
import UwgVerif.Model.SurfFlux
import UwgVerif.Model.Symbols
import UwgVerif.Model.SymbolsReal
import UwgVerif.Model.Tridiag
import UwgVerif.Model.UrbFlux
import UwgVerif.Model.Weather
import UwgVerif.Gen.ParamTable
import UwgVerif.Gen.RefTables
import UwgVerif.Lemmas.Except
import UwgVerif.Lemmas.Forall2
import UwgVerif.Lemmas.WeightedMean
import UwgVerif.Lemmas.Tridiag
import UwgVerif.Lemmas.Conduction
import UwgVerif.Lemmas.Diffusion
import UwgVerif.Lemmas.Psychro
import UwgVerif.Lemmas.Solar
import UwgVerif.Lemmas.Canyon
import UwgVerif.Lemmas.RefLib
import UwgVerif.Lemmas.Csv
import UwgVerif.Lemmas.CsvFmt
import UwgVerif.Lemmas.Clock
import UwgVerif.Lemmas.Driver
import UwgVerif.Lemmas.Sim
import UwgVerif.Lemmas.BemSelect
import UwgVerif.Lemmas.Bem
import UwgVerif.Lemmas.C06Records
import UwgVerif.Lemmas.C06Dict
import UwgVerif.Lemmas.C06RoundTrip
import UwgVerif.Lemmas.C06Routes
import UwgVerif.Lemmas.C06Reader
import UwgVerif.Lemmas.C06Char
import UwgVerif.Lemmas.Morph
import UwgVerif.Lemmas.RsmCoef
import UwgVerif.Lemmas.Step
import UwgVerif.Lemmas.Pipeline
import UwgVerif.Lemmas.Generate
import UwgVerif.Props.C01
import UwgVerif.Props.C02
import UwgVerif.Props.C03
import UwgVerif.Props.C04
import UwgVerif.Props.C05
import UwgVerif.Props.C06
import UwgVerif.Props.C07
import UwgVerif.Props.C08
import UwgVerif.Props.C09
import UwgVerif.Props.C10
import UwgVerif.Props.C11
import UwgVerif.Props.C12
import UwgVerif.Props.C13
import UwgVerif.Props.C14
import UwgVerif.Props.C15
import UwgVerif.Props.C16
import UwgVerif.Props.C17
import UwgVerif.Props.C18
import UwgVerif.Props.C19
import UwgVerif.Props.C20
import UwgVerif.Props.C15Inputs
import UwgVerif.Props.C16Coef
import UwgVerif.Props.EpwHeader
import UwgVerif.Props.Generate
import UwgVerif.Props.Morph
import UwgVerif.Props.Pipeline
import UwgVerif.Props.Step
import UwgVerif.Props.SurfFluxEnergy
import UwgVerif.Props.Weather
import UwgVerif.Drv.Proto
