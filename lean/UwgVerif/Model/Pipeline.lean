/-
Composition D - `generate(); simulate(); write_epw()` with the CONCRETE pieces plugged in.

Composition A (`Model/Morph.lean`) is the pipeline over an arbitrary physics and with three things handed in as
parameters: the interpretation of the EPW header, the numeric reading of the window rows, the initial state.
Here the first two are the models that are tied exactly to the real code, and the physics is the real loop body:

* `_read_epw`            → `Epw.readHeader`  (Model/EpwHeader.lean): site (cells 6..8 of line 1), ground line (line 4);
* `SimParam(...)`        → `Clock.create`    (refused timestep);
* `Weather(epw, HI, HF)` → `Weather.read`    (Model/Weather.lean) on the WHOLE table `hdr ++ rows` with
                           `HI = timeInitial`, `HF = timeFinal`: station records incl. the humidity ratio;
* the road column of `_compute_input` → `columnOutcome` (Model/Procmat.lean): `_soilindex1`, or the refusal of a
  road deeper than the deepest ground depth (only when the file states at least three depths);
* `Forcing(staTemp, weather)` + the selection block at the top of the loop body → `forcingOf` / `stepW`;
* the loop body → `Step.step` (Model/Step.lean), the loop → `Sim.runSteps` over the control trace;
* the deep / ground-water temperature of a pass → `deepTable` (monthly table of the header, row `_soilindex1`
  and row 2) or `meanDeep` (fewer than three depths: mean of the station temperatures of the whole window);
* `write_epw` → `Csv.writeEpw` on the records `canTemp − 273.15`, `Tdp`, `canRHum`, `wind`.

What is still handed in (and why):
* `C0 : Step.Cfg ℚ` - everything `generate()` derives from the PARAMETER file and the reference library
  (geometry, schedules, constants, grid of the rural column). Its fields `lat`, `lon`, `gmt`, `dt` are NOT used:
  `cfgOf` overwrites them with the site of the header and the timestep of the run;
* `init : Option Weather.Rec → State ℚ` - the objects `generate()` builds (initial temperatures come from the
  first station record, hence the argument);
* `droad kroad croad` - the pavement of the parameter file, as far as the choice of the ground depth needs it;
* `S : Sym ℚ` - the libm symbols.

Text left by `str2fl` in a cell of the window (Python keeps the string in the station list):
* dry bulb, relative humidity, pressure: `TypeError` inside `Weather.__init__` (`Weather.read`, `generate()` fails);
* wind speed: `max(<str>, windMin)` in the selection block raises `TypeError` in the pass that reads the row
  (and in the FIRST window row already inside `generate()`: `UCMDef.__init__` does the same `max`, `initWindText`);
* direct / diffuse radiation: `(self.dir + self.dif) > 0.` at the top of `solarcalcs` raises `TypeError`
  (`str + str` concatenates, the comparison with a number then raises) - nothing but the wind is used before;
* infrared: first used in `rural.infra = forc.infra - …` AFTER `solarcalcs`, the traffic and building schedule
  block and `rural.layerTemp[0]`: an exception of those comes first (`beforeInfra`), otherwise `TypeError`;
* wind direction: assigned to `forc.uDir`, never read by any pass; dew point and global horizontal radiation never
  leave the `Weather` object. `forcingOf` puts `0` for text in the wind direction; that this `0` reaches nothing
  but the write-only field `forc.uDir` is PROVED (`Lemmas/Pipeline.lean`: `step_uDir_dead`, `stepW_unread_dead`).

Executed at ℚ (the station records are rationals); core of the statements: `Props/Pipeline.lean`.
-/
import UwgVerif.Model.Morph
import UwgVerif.Model.Step
import UwgVerif.Model.Weather
import UwgVerif.Model.EpwHeader
import UwgVerif.Model.Procmat
import Mathlib.Data.Rat.Floor

namespace Uwg.Pipeline
open Uwg Uwg.Csv Uwg.Sim Uwg.Step

/-! ## `Forcing(...)` and the selection block -/

/-- the number in an entry of a station list; `0` stands for text (only used where the entry is never read) -/
def valD : Weather.Val → ℚ
  | .num q => q
  | .text => 0

/-- `Forcing(staTemp, weather)` for one row, with the four cells a pass reads given as numbers:
    `infra = staInfra`, `wind = staUmod`, `uDir = staUdir`, `hum = staHum`, `pres = staPres`, `temp = staTemp`
    (K), `rHum = staRhum`, `prec = staRobs / 3.6e6` (`staRobs` is 0), `dif = staDif`, `dir = staDir`. -/
def rowOf (w : Weather.Rec) (infra wind dir dif : ℚ) : FRow ℚ :=
  { infra := infra, wind := wind, uDir := valD w.udir, hum := w.hum, pres := w.pres, temp := w.temp,
    rHum := w.rhum, prec := w.robs / 3600000, dif := dif, dir := dir }

/-- What `Forcing(...)` and the selection block hand to the physics for one station record: a row of
    numbers, or `TypeError` when one of the four cells a pass computes with (wind speed, direct, diffuse,
    infrared) holds text. -/
def forcingOf (w : Weather.Rec) : Except Err (FRow ℚ) :=
  match w.umod, w.dir, w.dif, w.infra with
  | .num wind, .num dir, .num dif, .num infra => .ok (rowOf w infra wind dir dif)
  | _, _, _, _ => .error .type

/-- Total version (text ↦ 0), used only to hand a row to `Step.record`, which ignores it. -/
def rowD (w : Weather.Rec) : FRow ℚ := rowOf w (valD w.infra) (valD w.umod) (valD w.dir) (valD w.dif)

/-- What a pass does before `forc.infra` is used for the first time: `solarcalcs`, the traffic schedule, the
    per-building schedule block, `rural.layerTemp[0]`. Only its exception matters. -/
def beforeInfra (S : Sym ℚ) (C : Cfg ℚ) (s : State ℚ) (t : StepTrace) (r : FRow ℚ) (d : Deep ℚ) :
    Except Err Unit := do
  let f := forcOf C.par.windMin r d
  let sol ← solarStage S C t f s.ucm.road
  let _ ← look C.schtraffic (dayIdx t) t.hourDay
  let _ ← glueAll C (dayIdx t) t.hourDay sol.roofRec sol.wallRec C.sch s.blds
  let _ ← s.rural.t0
  pure ()

/-- One pass of the loop body on a station record (the row `forcIP.*[ceil_time_step]`), with the exceptions
    text cells cause, in program order. -/
def stepW (S : Sym ℚ) (C : Cfg ℚ) (s : State ℚ) (t : StepTrace) (w : Weather.Rec) (d : Deep ℚ) :
    Except Err (State ℚ) :=
  match w.umod with
  | .text => .error .type                        -- max(<str>, windMin)
  | .num wind =>
    match w.dir, w.dif with
    | .num dir, .num dif =>
      match w.infra with
      | .num infra => step S C s t (rowOf w infra wind dir dif) d
      | .text =>
        match beforeInfra S C s t (rowOf w 0 wind dir dif) d with
        | .error e => .error e
        | .ok _ => .error .type                  -- <str> - emissivity * SIGMA * T ** 4
    | _, _ => .error .type                       -- (self.dir + self.dif) > 0.

def toFrac (q : ℚ) : Frac := ⟨q.num, q.den⟩

/-- The four numbers `write_epw` formats for one record. -/
def resOf (x : Step.Rec ℚ) : Res :=
  { tdb := toFrac (x.canTemp - 273.15), tdp := toFrac x.tdp, rh := toFrac x.canRHum, wind := toFrac x.wind }

/-- The physics of uwg on station records, its record being what `write_epw` writes. -/
def physW (S : Sym ℚ) (C : Cfg ℚ) : Phys (State ℚ) Weather.Rec (Deep ℚ) Res Err :=
  { step := stepW S C, record := fun s t w => resOf (Step.record s t (rowD w)) }

/-! ## Header: site and ground temperatures -/

/-- The configuration of the run: `RSM.lat/lon/gmt` are the site of the header, `simTime.dt` the timestep. -/
def cfgOf (C0 : Cfg ℚ) (site : Epw.Site) (dt : Nat) : Cfg ℚ :=
  { C0 with lat := site.lat, lon := site.lon, gmt := site.gmt, dt := (dt : ℚ) }

/-- `Tsoil[i][month - 1]` (`0` outside the table: see `Props/Pipeline.lean`, `pipeline_ground_cells`). -/
def tsoil (g : Epw.Ground) (i month : Nat) : ℚ := ((g.recs[i]?).bind (·.months[month - 1]?)).getD 0

/-- `forc.deepTemp = Tsoil[_soilindex1][month - 1]`, `forc.waterTemp = Tsoil[2][month - 1]`. -/
def deepTable (g : Epw.Ground) (idx month : Nat) : Deep ℚ := ⟨tsoil g idx month, tsoil g 2 month⟩

/-- Fewer than three depths: `sum(forcIP.temp) / float(len(forcIP.temp))` and that `- 10.0`. -/
def meanDeep (rs : List Weather.Rec) : Deep ℚ :=
  let m := (rs.map (·.temp)).sum / (rs.length : ℚ)
  ⟨m, m - 10⟩

/-- The road column of `_compute_input` for the depths of the header (`MAXTHICKNESS = 0.05`,
    `MINTHICKNESS = 0.01`, tolerance `1e-15`; the soil material does not influence the index). -/
def roadColumn (droad kroad croad : ℚ) (g : Epw.Ground) : ColumnOutcome ℚ :=
  columnOutcome (1 / 20) (1 / 100) (1 / 1000000000000000) droad kroad croad 1 2000000
    (g.recs.map (·.depth))

inductive ColErr where
  | index     -- IndexError in `_procmat` (no pavement layer)
  | refused   -- the road is deeper than the deepest ground temperature depth
  deriving DecidableEq, Repr

/-- The monthly table `simulate` looks the deep temperatures up in: row `_soilindex1` of `Tsoil` (and row 2). -/
def tableOf (droad kroad croad : ℚ) (g : Epw.Ground) : Nat → Deep ℚ :=
  match roadColumn droad kroad croad g with
  | .ok _ (some i) => deepTable g i
  | _ => fun _ => ⟨0, 0⟩

/-- The deep-temperature selection of the run (`if self.nSoil < 3`). With at least three depths the column
    outcome always carries an index (`columnOutcome` refuses otherwise); the `none` branch is unreachable
    (`Lemmas/Pipeline.lean`, `roadColumn_idx_isSome`). -/
def soilOf (droad kroad croad : ℚ) (g : Epw.Ground) (recs : List Weather.Rec) :
    Except ColErr (Soil (Deep ℚ)) :=
  match roadColumn droad kroad croad g with
  | .index => .error .index
  | .refused => .error .refused
  | .ok _ idx =>
    if 3 ≤ g.nSoil then
      match idx with
      | some _ => .ok (.monthly (tableOf droad kroad croad g))
      | none => .error .refused
    else .ok (.windowMean (meanDeep recs))

/-! ## The loop for a given number of hours -/

/-- `simulate()` for `hours` record slots and `hours·3600/dt` passes (`N = int(simTime.days * 24)`,
    `range(1, simTime.nt)`); `Sim.simulate` is the case `hours = 24·days` (`simulateHours_days`). The tie
    runs the first hour only (`simTime.days = 1/24`, `simTime.nt = 3600/dt + 1` set on the generated object). -/
def simulateHours {St R D Rc E : Type} (P : Phys St R D Rc E) (soil : Soil D) (dt M Dy hours : Nat)
    (rows : List R) (s0 : St) : Outcome St Rc E :=
  match Clock.create dt M Dy with
  | .error .zerodiv => .error ([], .drv .zerodiv)
  | .error .timestep => .error ([], .drv .timestep)
  | .ok c0 =>
    let r := traceLoop dt hours rows.length (hours * 3600 / dt) 1 c0 0
    match runSteps P (deepAt soil) rows r.1 s0 [] with
    | .error x => .error x
    | .ok (s, recs) =>
      match r.2 with
      | none => .ok (s, recs)
      | some e => .error (recs, .drv e)

/-! ## The pipeline -/

/-- Where the pipeline stopped. -/
inductive PipeErr where
  | header (e : Epw.Err)        -- `generate()`: `_read_epw` (IndexError / ValueError)
  | timestep (e : ClockErr)     -- `generate()`: `SimParam` refused the timestep
  | weather (e : Weather.Err)   -- `generate()`: `Weather.__init__`
  | initWind                    -- `generate()`: `UCMDef(…)`: `max(staUmod[0], windMin)` with text in the first row
  | column (e : ColErr)         -- `generate()`: road column
  | sim (e : SimErr Err)        -- `simulate()` raised
  | write                       -- `write_epw()`: IndexError
  deriving Repr

/-- `UCMDef.__init__` computes `max(initialWind, windMin)` with `initialWind = weather.staUmod[0]`: text in the
    wind cell of the FIRST window row is a `TypeError` inside `generate()` (the only exception of the
    constructors `generate()` calls between `Weather` and the road column that the model carries; the others
    depend on the parameter file and belong to `init`). -/
def initWindText (recs : List Weather.Rec) : Bool :=
  match recs.head? with
  | some w => (match w.umod with | .text => true | .num _ => false)
  | none => false

/-- `generate(); simulate()`: the final state and the records, or the failing stage. `days` fixes the window
    `Weather` cuts, `hours` the number of record slots. -/
def pipelineSim (S : Sym ℚ) (C0 : Cfg ℚ) (init : Option Weather.Rec → State ℚ) (droad kroad croad : ℚ)
    (dt M Dy days hours : Nat) (hdr rows : List Csv.Row) : Except PipeErr (State ℚ × List Res) :=
  match Epw.readHeader hdr with
  | .error e => .error (.header e)
  | .ok (site, g) =>
    match Clock.create dt M Dy with
    | .error e => .error (.timestep e)
    | .ok _ =>
      match Weather.read S (hdr ++ rows) (timeInitial M Dy) (timeFinal M Dy days) with
      | .error e => .error (.weather e)
      | .ok recs =>
        if initWindText recs then .error .initWind
        else
          match soilOf droad kroad croad g recs with
          | .error e => .error (.column e)
          | .ok soil =>
            match simulateHours (physW S (cfgOf C0 site dt)) soil dt M Dy hours recs (init recs.head?) with
            | .error x => .error (.sim x.2)
            | .ok x => .ok x

/-- `generate(); simulate(); write_epw()` with `hours` record slots. -/
def pipelineCore (S : Sym ℚ) (C0 : Cfg ℚ) (init : Option Weather.Rec → State ℚ) (droad kroad croad : ℚ)
    (dt M Dy days hours p : Nat) (hdr rows : List Csv.Row) : Except PipeErr (List Char) :=
  match pipelineSim S C0 init droad kroad croad dt M Dy days hours hdr rows with
  | .error e => .error e
  | .ok x =>
    match writeEpw hdr rows (Morph.startRow M Dy) x.2 p with
    | none => .error .write
    | some text => .ok text

/-- **The pipeline**: header rows + data rows of the rural file, parameters, initial state ↦ the text of the
    written file, or the failing stage. -/
def pipeline (S : Sym ℚ) (C0 : Cfg ℚ) (init : Option Weather.Rec → State ℚ) (droad kroad croad : ℚ)
    (dt M Dy days p : Nat) (hdr rows : List Csv.Row) : Except PipeErr (List Char) :=
  pipelineCore S C0 init droad kroad croad dt M Dy days (24 * days) p hdr rows

/-! ## The same run as an instance of composition A -/

/-- `proj` of composition A: the station record of a rural row (total: a row `Weather` would refuse gets a
    record of zeros, never reached when `Weather.read` returned). -/
def projD (S : Sym ℚ) (r : Csv.Row) : Weather.Rec :=
  match Weather.rowRec S r with
  | .ok x => x
  | .error _ => ⟨0, .text, 0, 0, .text, .text, .text, .text, .text, .text, 0, 0⟩

/-- Stages of composition A as stages of the pipeline. -/
def ofMorph : Morph.MorphErr Err → PipeErr
  | .timestep e => .timestep e
  | .weather => .weather .index
  | .sim e => .sim e
  | .write => .write

end Uwg.Pipeline
