/-
Model of `uwg/psychrometrics.py`, operation by operation, generic over an ordered field `K` and a
table of function symbols `Sym K` (`exp`, `log`, `rpow`).

  psychrometrics(Tdb_in [K], w_in, P [Pa])  ->  (Tdb, w, phi, h, Tdp, v)      `psychro`
  saturation_pressure(Tdb_ [°C])            ->  kPa                           `satPressure`
  moist_air_density(P, Tdb, H)                                                `moistAirDensity`
  hum_from_rhum_temp(RH [%], T [°C], P [Pa]) -> humidity ratio                `humFromRh`

Python exceptions are modelled explicitly (`Except PErr`):
  * `x / 0`                          -> `zerodiv`
  * `log(x)` with `x ≤ 0`            -> `value`   (except inside the `try:` of `psychrometrics`,
                                                   where it selects `alpha = -3`)
  * `math.pow(x, 0.1984)` with `x<0` -> `value`   (CPython: negative base, non-integral exponent)
in the order in which CPython evaluates the sub-expressions.  `pow(alpha, 2)` and `pow(alpha, 3)`
are exact integer powers; `pow(_pw, 0.1984)` is the symbol `rpow`.

The two routines use different molar-mass ratios (0.621945 in `psychrometrics`, 0.62198 in
`hum_from_rhum_temp`); the saturation-pressure polynomial is the same in both (proved in
`Lemmas/Psychro.lean`: `satExponent_eq`).
-/
import UwgVerif.Model.Symbols
import Mathlib.Algebra.Order.Field.Basic

namespace Uwg
variable {K : Type} [Field K] [LinearOrder K] [IsStrictOrderedRing K]

/-- Python exception classes that the psychrometric routines can raise in exact arithmetic. -/
inductive PErr where
  | zerodiv
  | value
deriving Repr, DecidableEq

def PErr.toString : PErr → String
  | .zerodiv => "zerodiv"
  | .value => "value"

/-- The six results of `psychrometrics`. -/
structure PsyOut (K : Type) where
  tdb : K
  w : K
  phi : K
  h : K
  tdp : K
  v : K

/-! ### saturation_pressure -/

/-- The argument of `exp` in `saturation_pressure`, as written there, in terms of `T = Tdb_ + 273.15`:
    `-1 * 5.8002206e3 / T + 1.3914993 + 4.8640239e-2 * T * -1.0 + 4.1764768e-5 * pow(T, 2)
     - 1.4452093e-8 * pow(T, 3) + 6.5459673 * log(T)`. -/
def satExponent (s : Sym K) (T : K) : K :=
  -1 * 5.8002206e3 / T + 1.3914993 + 4.8640239e-2 * T * -1.0 + 4.1764768e-5 * T ^ 2
    - 1.4452093e-8 * T ^ 3 + 6.5459673 * s.log T

/-- Value of `saturation_pressure(Tdb_)` [kPa] when no exception is raised. -/
def satPressureVal (s : Sym K) (tdb : K) : K :=
  s.exp (satExponent s (tdb + 273.15)) / 1000

/-- `saturation_pressure(Tdb_)`: `T = Tdb_ + 273.15`; `…/T` raises ZeroDivisionError for `T = 0`
    (evaluated first), `log(T)` raises ValueError for `T < 0`. -/
def satPressure (s : Sym K) (tdb : K) : Except PErr K :=
  let T := tdb + 273.15
  if T = 0 then .error .zerodiv
  else if T ≤ 0 then .error .value
  else .ok (satPressureVal s tdb)

/-! ### psychrometrics -/

/-- `Pw = (w * P) / (0.621945 + w)` with `P` already in kPa. -/
def vapourPressure (w P : K) : K := (w * P) / (0.621945 + w)

/-- `alpha`: `log(_pw)`, or `-3` where Python's `log` raises ValueError (`_pw ≤ 0`). -/
def dewAlpha (s : Sym K) (pw : K) : K := if pw ≤ 0 then -3 else s.log pw

/-- The dew-point correlation
    `6.54 + 14.526*alpha + pow(alpha,2)*0.7389 + pow(alpha,3)*0.09486 + pow(_pw,0.1984)*0.4569`. -/
def dewPoint (s : Sym K) (pw : K) : K :=
  let alpha := dewAlpha s pw
  6.54 + 14.526 * alpha + alpha ^ 2 * 0.7389 + alpha ^ 3 * 0.09486 + s.rpow pw 0.1984 * 0.4569

/-- Value of `phi` when nothing raises: `Pw / Pws * 100.0` (inputs in K and Pa). -/
def phiVal (s : Sym K) (tdbIn w P0 : K) : K :=
  vapourPressure w (P0 / 1000) / satPressureVal s (tdbIn - 273.15) * 100.0

/-- Value of `Tdp` when nothing raises. -/
def tdpVal (s : Sym K) (w P0 : K) : K := dewPoint s (vapourPressure w (P0 / 1000))

/-- `psychrometrics(Tdb_in, w_in, P)`. -/
def psychro (s : Sym K) (tdbIn wIn P0 : K) : Except PErr (PsyOut K) :=
  let c_air : K := 1006
  let hlg : K := 2501000
  let cw : K := 1860
  let P := P0 / 1000
  let tdb := tdbIn - 273.15
  let w := wIn
  if 0.621945 + w = 0 then .error .zerodiv else
  let pw := (w * P) / (0.621945 + w)
  match satPressure s tdb with
  | .error e => .error e
  | .ok pws =>
    if pws = 0 then .error .zerodiv else
    let phi := pw / pws * 100.0
    let h := c_air * tdb + w * (hlg + cw * tdb)
    if P = 0 then .error .zerodiv else
    let v := 0.287042 * (tdb + 273.15) * (1 + 1.607858 * w) / P
    let pw' := (w * P) / (0.621945 + w)
    if pw' < 0 then .error .value else      -- math.pow(negative, 0.1984)
    .ok { tdb := tdb, w := w, phi := phi, h := h, tdp := dewPoint s pw', v := v }

/-! ### moist_air_density -/

/-- `P / (1000 * 0.287042 * Tdb * (1. + 1.607858 * H))`. -/
def moistAirDensity (P tdb H : K) : Except PErr K :=
  let d := 1000 * 0.287042 * tdb * (1 + 1.607858 * H)
  if d = 0 then .error .zerodiv else .ok (P / d)

/-! ### hum_from_rhum_temp -/

/-- The argument of `exp` in `hum_from_rhum_temp` as written there (constants C8..C13). -/
def humExponent (s : Sym K) (T : K) : K :=
  -5.8002206e3 / T + 1.3914993 + -4.8640239e-2 * T + 4.1764768e-5 * T ^ 2
    + -1.4452093e-8 * T ^ 3 + 6.5459673 * s.log T

/-- Value of `hum_from_rhum_temp(RH, T, P)` when nothing raises. -/
def humFromRhVal (s : Sym K) (RH tC P : K) : K :=
  let pws := s.exp (humExponent s (tC + 273.15))
  let pw := RH * pws / 100.0
  0.62198 * pw / (P - pw)

/-- `hum_from_rhum_temp(RH, T, P)`. -/
def humFromRh (s : Sym K) (RH tC P : K) : Except PErr K :=
  let T := tC + 273.15
  if T = 0 then .error .zerodiv
  else if T ≤ 0 then .error .value
  else
    let pws := s.exp (humExponent s T)
    let pw := RH * pws / 100.0
    if P - pw = 0 then .error .zerodiv else .ok (0.62198 * pw / (P - pw))

/-! ### driver fragment (uwg.py `simulate`, weather.py) -/

/-- The three columns of a rural EPW row that determine its humidity ratio
    (`staRhum` [%], `staTemp` [°C] before the +273.15, `staPres` [Pa]). -/
structure RuralRow (K : Type) where
  rh : K
  tC : K
  pres : K

/-- `Weather.staHum[i] = hum_from_rhum_temp(staRhum[i], staTemp[i], staPres[i])`;
    `forc.hum = forcIP.hum[row]`; `UCM.canHum = copy(forc.hum)`. -/
def canHumOf (s : Sym K) (row : RuralRow K) : Except PErr K :=
  humFromRh s row.rh row.tC row.pres

/-- What `simulate` stores at record time for a step driven by rural row `row` whose physics
    produced the canyon temperature `canTemp` [K]:
    `psychrometrics(UCM.canTemp, UCM.canHum, forc.pres)` with `canHum = staHum(row)`. -/
def recordHumidity (s : Sym K) (row : RuralRow K) (canTemp : K) : Except PErr (PsyOut K) :=
  match canHumOf s row with
  | .error e => .error e
  | .ok w => psychro s canTemp w row.pres

end Uwg
