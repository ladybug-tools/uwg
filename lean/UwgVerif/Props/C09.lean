/-
C09 — Moisture is conserved and the written humidity fields are consistent.

Property theorems only (five more, and the helpers, in `Lemmas/Psychro.lean`; model in `Model/Psychro.lean`).
Symbols are interpreted by the real functions (`realSym`: `Real.exp`, `Real.log`, `x ^ y`).

Units as in the code: `psychrometrics(Tdb_in [K], w, P [Pa])`, `hum_from_rhum_temp(RH [%], T [°C],
P [Pa])`.  The two routines use different molar-mass ratios (0.621945 resp. 0.62198), so the
round trip reproduces the humidity ratio up to the *constant* factor 0.62198/0.621945
(relative deviation 5.63e-5) — stated, not hidden.

Outside the theorems (measured by the harness, never decided here): that the written dew point
*is* the dew point, i.e. `saturation_pressure(Tdp) ≈ pw` within the validity range of the
empirical correlation; rounding of the written columns to `epw_precision` decimals; IEEE effects.
-/
import UwgVerif.Lemmas.Psychro

namespace Uwg.C09

/-- The constant by which the round trip scales the humidity ratio. -/
noncomputable def ratio : ℝ := 0.62198 / 0.621945

/-- Under the physical guards (`T > 0` K, `w ≥ 0`, `P > 0` Pa) `psychrometrics` raises no
    exception. -/
theorem psychro_defined (T w P : ℝ) (hT : 0 < T) (hw : 0 ≤ w) (hP : 0 < P) :
    ∃ r, psychro realSym T w P = .ok r := by
  have hd : (0.621945 : ℝ) + w ≠ 0 := by positivity
  have hs : satPressureVal realSym (T - 273.15) ≠ 0 := (satPressureVal_pos _).ne'
  have hP' : P / 1000 ≠ 0 := by positivity
  have hpw : ¬ (w * (P / 1000) / (0.621945 + w) < 0) :=
    not_lt.mpr (vapourPressure_nonneg (P / 1000) (by positivity) hw)
  unfold psychro satPressure
  simp only [sub_add_cancel, hd, hT.ne', not_le.mpr hT, hs, hP', hpw, if_false]
  exact ⟨_, rfl⟩

/-- T1 (value level, *any* temperature). The relative humidity `phi` that `psychrometrics`
    reports for humidity ratio `w ≥ 0` at temperature `T` and pressure `P > 0`, fed back through
    `hum_from_rhum_temp` at the same temperature and pressure, gives `0.62198/0.621945 · w`,
    independent of `T`. -/
theorem moisture_identity (T w P : ℝ) (hw : 0 ≤ w) (hP : 0 < P) :
    humFromRhVal realSym (phiVal realSym T w P) (T - 273.15) P = ratio * w := by
  have hd : (0 : ℝ) < 0.621945 + w := by positivity
  unfold humFromRhVal ratio
  simp only [realSym_exp]
  rw [reconstructed_pw, sub_mul_div_add hd.ne']
  field_simp

/-- T1 on the routines with their exception behaviour: for `T > 0` K both calls return, and the
    second returns `ratio · w`. -/
theorem moisture_identity_checked (T w P : ℝ) (hT : 0 < T) (hw : 0 ≤ w) (hP : 0 < P) :
    ∃ r, psychro realSym T w P = .ok r ∧ r.w = w ∧
      humFromRh realSym r.phi (T - 273.15) P = .ok (ratio * w) := by
  obtain ⟨r, h⟩ := psychro_defined T w P hT hw hP
  obtain ⟨hphi, -, hw', -⟩ := psychro_fields h
  refine ⟨r, h, hw', ?_⟩
  rw [hphi, humFromRh_returns (by rw [sub_add_cancel]; exact hT)
    (reconstructed_denominator_ne T w P hw hP), moisture_identity T w P hw hP]

/-- Corollary of T1: the reconstructed humidity ratio deviates from `w` by less than
    5.7e-5 relative (exactly: by the factor 0.62198/0.621945 − 1 = 5.6275…e-5). -/
theorem moisture_deviation (T w P : ℝ) (hw : 0 < w) (hP : 0 < P) :
    |humFromRhVal realSym (phiVal realSym T w P) (T - 273.15) P - w| < 5.7e-5 * w := by
  have h2 : 0 < ratio - 1 := by unfold ratio; norm_num
  have h3 : ratio - 1 < 5.7e-5 := by unfold ratio; norm_num
  rw [moisture_identity T w P hw.le hP, ← sub_one_mul, abs_of_pos (mul_pos h2 hw)]
  exact mul_lt_mul_of_pos_right h3 hw

/-- T2. Driver + T1. For a rural row (`rh ≥ 0`, absolute temperature positive, vapour pressure
    below station pressure) and any positive canyon temperature, the step's humidity chain
    `staHum = hum_from_rhum_temp(row)`, `canHum = staHum`, `psychrometrics(canTemp, canHum, pres)`
    raises nothing; the recorded `w` is the rural humidity ratio (nothing added or removed); the
    humidity ratio implied by the recorded `(canTemp, canRHum, pres)` is `ratio ·` that of the
    rural row; and the recorded dew point is the correlation evaluated at that humidity ratio. -/
theorem written_rh_consistent (row : RuralRow ℝ) (canTemp : ℝ)
    (hrh : 0 ≤ row.rh) (hT : 0 < row.tC + 273.15) (hTc : 0 < canTemp)
    (hpw : row.rh * Real.exp (humExponent realSym (row.tC + 273.15)) / 100 < row.pres) :
    ∃ w r, canHumOf realSym row = .ok w ∧ 0 ≤ w ∧
      recordHumidity realSym row canTemp = .ok r ∧ r.w = w ∧
      humFromRh realSym r.phi (canTemp - 273.15) row.pres = .ok (ratio * w) ∧
      r.tdp = tdpVal realSym w row.pres := by
  have hX : 0 < Real.exp (humExponent realSym (row.tC + 273.15)) := Real.exp_pos _
  have hpw0 : 0 ≤ row.rh * Real.exp (humExponent realSym (row.tC + 273.15)) / 100 := by positivity
  have hP : 0 < row.pres := lt_of_le_of_lt hpw0 hpw
  have hne : row.pres - row.rh * Real.exp (humExponent realSym (row.tC + 273.15)) / 100.0 ≠ 0 := by
    rw [lit100]; linarith
  have hw : canHumOf realSym row = .ok (humFromRhVal realSym row.rh row.tC row.pres) :=
    humFromRh_returns hT hne
  have hw0 : 0 ≤ humFromRhVal realSym row.rh row.tC row.pres := by
    unfold humFromRhVal
    simp only [realSym_exp, lit100]
    apply div_nonneg
    · exact mul_nonneg (by norm_num) hpw0
    · linarith
  obtain ⟨r, hr, hrw, hphi⟩ := moisture_identity_checked canTemp _ row.pres hTc hw0 hP
  obtain ⟨_, htdp, _, _⟩ := psychro_fields hr
  refine ⟨_, r, hw, hw0, ?_, hrw, hphi, htdp⟩
  unfold recordHumidity
  rw [hw]
  exact hr

/-- T2 on the stated range: every rural row with 0 ≤ RH ≤ 100 %, −40 ≤ T ≤ 50 °C and
    P ≥ 60 kPa satisfies the guards of `written_rh_consistent` (saturation pressure stays
    below 22.1 kPa < 60 kPa), so the conclusion holds for every such row and every positive
    canyon temperature. -/
theorem written_rh_consistent_range (row : RuralRow ℝ) (canTemp : ℝ)
    (hrh0 : 0 ≤ row.rh) (hrh1 : row.rh ≤ 100) (ht0 : -40 ≤ row.tC) (ht1 : row.tC ≤ 50)
    (hp : 60000 ≤ row.pres) (hTc : 0 < canTemp) :
    ∃ w r, canHumOf realSym row = .ok w ∧ 0 ≤ w ∧
      recordHumidity realSym row canTemp = .ok r ∧ r.w = w ∧
      humFromRh realSym r.phi (canTemp - 273.15) row.pres = .ok (ratio * w) ∧
      r.tdp = tdpVal realSym w row.pres := by
  have hsat := satPa_lt (row.tC + 273.15) (by linarith) (by linarith)
  have hX : 0 < Real.exp (humExponent realSym (row.tC + 273.15)) := Real.exp_pos _
  apply written_rh_consistent row canTemp hrh0 (by linarith) hTc
  have : row.rh * Real.exp (humExponent realSym (row.tC + 273.15))
      ≤ 100 * Real.exp (humExponent realSym (row.tC + 273.15)) :=
    mul_le_mul_of_nonneg_right hrh1 hX.le
  linarith

/-- T3. At fixed temperature and pressure `P > 0` the relative humidity returned by
    `psychrometrics` is strictly increasing in the humidity ratio on `w ≥ 0`. -/
theorem phi_strictMono_w (T P w₁ w₂ : ℝ) (r₁ r₂ : PsyOut ℝ) (hP : 0 < P)
    (h1 : 0 ≤ w₁) (h12 : w₁ < w₂)
    (e₁ : psychro realSym T w₁ P = .ok r₁) (e₂ : psychro realSym T w₂ P = .ok r₂) :
    r₁.phi < r₂.phi := by
  rw [(psychro_fields e₁).1, (psychro_fields e₂).1]
  unfold phiVal
  have hv := vapourPressure_strictMono (P / 1000) (by positivity) h1 h12
  exact mul_lt_mul_of_pos_right (div_lt_div_of_pos_right hv (satPressureVal_pos _)) (by norm_num)

/-- T4. At fixed pressure `P > 0` the dew point returned by `psychrometrics` is strictly
    increasing in the humidity ratio on `w > 0` (there `_pw > 0`, `alpha = log _pw`):
    `Tdp = 6.54 + 14.526α + 0.7389α² + 0.09486α³ + 0.4569·pw^0.1984` with the cubic increasing on
    all of ℝ, `log` and `x ↦ x^0.1984` increasing, and `pw = wP/(0.621945+w)` increasing in `w`. -/
theorem tdp_strictMono_w (T P w₁ w₂ : ℝ) (r₁ r₂ : PsyOut ℝ) (hP : 0 < P)
    (h1 : 0 < w₁) (h12 : w₁ < w₂)
    (e₁ : psychro realSym T w₁ P = .ok r₁) (e₂ : psychro realSym T w₂ P = .ok r₂) :
    r₁.tdp < r₂.tdp := by
  rw [(psychro_fields e₁).2.1, (psychro_fields e₂).2.1]
  unfold tdpVal
  exact dewPoint_strictMono _ _ (vapourPressure_pos (P / 1000) (by positivity) h1)
    (vapourPressure_strictMono (P / 1000) (by positivity) h1.le h12)

/-- Remark to T4: strictness cannot be extended to `w = 0`. There the code takes the
    `except ValueError` branch (`alpha = -3`) and returns the constant −32.94912 °C, which lies
    *above* the dew point of small positive humidity ratios (e.g. vapour pressure e⁻¹⁰ kPa). -/
theorem tdp_zero_branch :
    dewPoint realSym 0 = -32.94912 ∧ dewPoint realSym (Real.exp (-10)) < dewPoint realSym 0 := by
  have h0 : dewPoint realSym 0 = -32.94912 := by
    unfold dewPoint dewAlpha
    simp only [realSym_rpow, le_refl, if_true]
    rw [Real.zero_rpow (by norm_num)]
    norm_num
  refine ⟨h0, ?_⟩
  rw [h0]
  have hp : 0 < Real.exp (-10) := Real.exp_pos _
  have hle : Real.exp (-10) ^ (0.1984 : ℝ) ≤ 1 :=
    Real.rpow_le_one hp.le (Real.exp_le_one_iff.mpr (by norm_num)) (by norm_num)
  unfold dewPoint dewAlpha
  simp only [realSym_rpow, realSym_log, if_neg (not_le.mpr hp), Real.log_exp]
  norm_num
  linarith

/-- The value of `saturation_pressure` (`satPressureVal`) is strictly increasing on −40 … 50 °C. -/
theorem satPressure_strictMono (t₁ t₂ : ℝ) (h0 : -40 ≤ t₁) (h12 : t₁ < t₂) (h2 : t₂ ≤ 50) :
    satPressureVal realSym t₁ < satPressureVal realSym t₂ := by
  unfold satPressureVal
  simp only [realSym_exp]
  have := satExponent_strictMono (t₁ + 273.15) (t₂ + 273.15) (by linarith) (by linarith)
    (by linarith)
  exact div_lt_div_of_pos_right (Real.exp_lt_exp.mpr this) (by norm_num)

/-- T5. At fixed humidity ratio `w > 0` and pressure `P > 0` the relative humidity returned by
    `psychrometrics` strictly decreases with temperature on 233.15 … 323.15 K (−40 … 50 °C). -/
theorem phi_strictAnti_T (T₁ T₂ w P : ℝ) (r₁ r₂ : PsyOut ℝ) (hw : 0 < w) (hP : 0 < P)
    (h0 : 233.15 ≤ T₁) (h12 : T₁ < T₂) (h2 : T₂ ≤ 323.15)
    (e₁ : psychro realSym T₁ w P = .ok r₁) (e₂ : psychro realSym T₂ w P = .ok r₂) :
    r₂.phi < r₁.phi := by
  rw [(psychro_fields e₁).1, (psychro_fields e₂).1]
  unfold phiVal
  have hs1 := satPressureVal_pos (T₁ - 273.15)
  have hs := satPressure_strictMono (T₁ - 273.15) (T₂ - 273.15) (by linarith) (by linarith)
    (by linarith)
  have hv := vapourPressure_pos (P / 1000) (by positivity) hw
  exact mul_lt_mul_of_pos_right (div_lt_div_of_pos_left hv hs1 hs) (by norm_num)

/-- Non-vacuity: a concrete rural row (RH 80 %, 27 °C, 100.8 kPa) and canyon temperature 301 K
    satisfy all hypotheses of `written_rh_consistent_range`, and `psychrometrics` is defined at
    the monotonicity theorems' inputs. -/
example : ∃ w r, canHumOf realSym ⟨80, 27, 100800⟩ = .ok w ∧ 0 ≤ w ∧
    recordHumidity realSym ⟨80, 27, 100800⟩ 301 = .ok r ∧ r.w = w ∧
    humFromRh realSym r.phi (301 - 273.15) 100800 = .ok (ratio * w) ∧
    r.tdp = tdpVal realSym w 100800 :=
  written_rh_consistent_range ⟨80, 27, 100800⟩ 301 (by norm_num) (by norm_num) (by norm_num)
    (by norm_num) (by norm_num) (by norm_num)

example : ∃ r₁ r₂, psychro realSym 300 0.01 101325 = .ok r₁ ∧
    psychro realSym 300 0.02 101325 = .ok r₂ ∧ r₁.phi < r₂.phi ∧ r₁.tdp < r₂.tdp := by
  obtain ⟨r₁, e₁⟩ := psychro_defined 300 0.01 101325 (by norm_num) (by norm_num) (by norm_num)
  obtain ⟨r₂, e₂⟩ := psychro_defined 300 0.02 101325 (by norm_num) (by norm_num) (by norm_num)
  exact ⟨r₁, r₂, e₁, e₂,
    phi_strictMono_w 300 101325 0.01 0.02 r₁ r₂ (by norm_num) (by norm_num) (by norm_num) e₁ e₂,
    tdp_strictMono_w 300 101325 0.01 0.02 r₁ r₂ (by norm_num) (by norm_num) (by norm_num) e₁ e₂⟩

end Uwg.C09
