/-
C16 — Vertical diffusion is bounded, conservative and exactly solved.

Everything is generic over a linearly ordered field `K` (so it holds over ℚ, where the model is
executed against the real code, and over ℝ) and over the `DecidableEq K` instance the executable
guard uses.

`diffusion nz dt co da daz cd dz` is the model of `RSMDef.diffusion_equation`; it returns
`.ok xs` exactly when the Python function returns, `.error .index` / `.error .zerodiv` where it
raises IndexError / ZeroDivisionError. All list entries are addressed with `getD · 0`; every
theorem about `diffusion` below either assumes the list lengths explicitly (`Admissible`) or assumes
that the call returned (`= .ok xs`), which by the guard forces every entry that is mentioned to
exist. The theorems of the last section are about `solve` / `solveChecked` on an arbitrary system.

The theorems hold from `nz = 2` on (the property asks for `nz ≥ 3`). With `nz = 1` the code
returns `[0]`, with `nz = 0` it raises IndexError; both are outside the property.
-/
import UwgVerif.Lemmas.Diffusion

namespace Uwg.C16
variable {K : Type} [Field K] [LinearOrder K] [IsStrictOrderedRing K] [DecidableEq K]

/-- The hypotheses of the property: at least two levels, list lengths as at the call site in
    `RSMDef.vdm` (`co`, `da`: `nz`; `daz`, `cd`: `nz+1`; `dz`: more than `nz`, `dz[nz]` is read),
    non-negative timestep, positive densities and grid spacings, non-negative diffusion
    coefficients. -/
structure Admissible (nz : Nat) (dt : K) (co da daz cd dz : List K) : Prop where
  nz_ge : 2 ≤ nz
  len_co : co.length = nz
  len_da : da.length = nz
  len_daz : daz.length = nz + 1
  len_cd : cd.length = nz + 1
  len_dz : nz + 1 ≤ dz.length
  dt_nonneg : 0 ≤ dt
  da_pos : ∀ i, i < nz → 0 < da.getD i 0
  daz_pos : ∀ i, i ≤ nz → 0 < daz.getD i 0
  cd_nonneg : ∀ i, i ≤ nz → 0 ≤ cd.getD i 0
  dz_pos : ∀ i, i ≤ nz → 0 < dz.getD i 0

omit [IsStrictOrderedRing K] [DecidableEq K] in
private theorem admissible_levels {nz : Nat} {dt : K} {co da daz cd dz : List K}
    (h : Admissible nz dt co da daz cd dz) :
    ∀ l ∈ levelsFrom co da daz cd dz 0 nz, PosLevel l :=
  forall_mem_levelsFrom.mpr fun i _ hi =>
    ⟨h.da_pos i (by omega), h.dz_pos i (by omega), (h.daz_pos i (by omega)).le,
      h.cd_nonneg i (by omega)⟩

omit [DecidableEq K] in
/-- T4b. For admissible inputs every row of the system `diffusion_equation` assembles is an
    M-matrix row (non-positive off-diagonals, weak diagonal dominance, `b + c > 0`); the closing
    row `(-1, 1, 0)` is only weakly dominant and is covered. -/
theorem diffusion_rows_mrows (nz : Nat) (dt : K) (co da daz cd dz : List K)
    (h : Admissible nz dt co da daz cd dz) :
    ∀ r ∈ diffusionRows dt (mkLevels nz co da daz cd dz), MRow r := fun r hr =>
  (diffusionRows_avg (Q := fun _ => True) h.dt_nonneg
    (by rw [mkLevels_eq]; exact admissible_levels h) (fun _ _ => trivial) r hr).1

/-- T4a. For admissible inputs no subscript or division fails and no pivot vanishes: the call
    returns a profile with `nz` levels. -/
theorem diffusion_defined (nz : Nat) (dt : K) (co da daz cd dz : List K)
    (h : Admissible nz dt co da daz cd dz) :
    ∃ xs, diffusion nz dt co da daz cd dz = .ok xs ∧ xs.length = nz := by
  refine ⟨solve (diffusionRows dt (mkLevels nz co da daz cd dz)), ?_, ?_⟩
  · rw [diffusion_eq_ok]
    refine ⟨?_, pivots_of_mrows _ (diffusion_rows_mrows nz dt co da daz cd dz h), rfl⟩
    apply pyChecks_pass (by have := h.nz_ge; omega) h.len_co h.len_da h.len_daz h.len_cd h.len_dz
    · intro i hi; exact ne_of_gt (h.dz_pos i hi)
    · intro i _ hi
      exact ne_of_gt (add_pos (h.dz_pos i (by omega)) (h.dz_pos (i - 1) (by omega)))
    · intro i hi; exact ne_of_gt (h.da_pos i hi)
  · rw [solve_length, diffusionRows_length]; simp [mkLevels]

omit [LinearOrder K] [IsStrictOrderedRing K] in
/-- T4c. Whenever the call returns (for *any* input, admissible or not), the returned profile has
    `nz` levels and satisfies every equation of the assembled tridiagonal system exactly, and it
    is the only vector that does. -/
theorem diffusion_exact (nz : Nat) (dt : K) (co da daz cd dz xs : List K)
    (hxs : diffusion nz dt co da daz cd dz = .ok xs) :
    Sat 0 (diffusionRows dt (mkLevels nz co da daz cd dz)) xs ∧ xs.length = nz ∧
    ∀ ys, Sat 0 (diffusionRows dt (mkLevels nz co da daz cd dz)) ys → ys = xs := by
  obtain ⟨_, hp, rfl⟩ := diffusion_eq_ok.mp hxs
  refine ⟨solve_sound _ hp, ?_, sat_unique_solve _ hp⟩
  rw [solve_length, diffusionRows_length]; simp [mkLevels]

omit [LinearOrder K] [IsStrictOrderedRing K] in
private theorem returned_shape {n : Nat} {dt : K} {co da daz cd dz xs : List K}
    (hxs : diffusion (n + 2) dt co da daz cd dz = .ok xs) :
    ∃ xs', xs = co.getD 0 0 :: xs' ∧ xs'.length = n + 1 ∧
      Sat (co.getD 0 0)
        (interiorRows dt (cddzI (levelAt co da daz cd dz 0) (levelAt co da daz cd dz 1))
          (levelsFrom co da daz cd dz 1 (n + 1))) xs' := by
  obtain ⟨hsat, hlen, _⟩ := diffusion_exact (n + 2) dt co da daz cd dz xs hxs
  rw [mkLevels_eq, levelsFrom_succ, levelsFrom_succ] at hsat
  obtain ⟨xs', rfl, hs⟩ := sat_diffusionRows hsat
  exact ⟨xs', rfl, by simpa using hlen, by rw [levelsFrom_succ]; exact hs⟩

omit [LinearOrder K] [IsStrictOrderedRing K] in
/-- T1a. The lowest level keeps the measured rural air temperature: `x[0] = co[0]`
    (for every call with `nz ≥ 2` that returns). -/
theorem bottom_dirichlet (nz : Nat) (dt : K) (co da daz cd dz xs : List K) (h2 : 2 ≤ nz)
    (hxs : diffusion nz dt co da daz cd dz = .ok xs) :
    ∃ t, co[0]? = some t ∧ xs[0]? = some t := by
  obtain ⟨n, rfl⟩ := Nat.exists_eq_add_of_le' h2
  obtain ⟨xs', rfl, _, _⟩ := returned_shape hxs
  have hc := (diffusion_eq_ok.mp hxs).1
  have h0 : 0 < co.length := (pyChecks_eq_none.mp hc).1.2.2
  exact ⟨co.getD 0 0, by simp [List.getD_eq_getElem?_getD, h0], rfl⟩

omit [LinearOrder K] [IsStrictOrderedRing K] in
/-- T1b. The top two levels are equal after the step: `x[nz-1] = x[nz-2]`
    (for every call with `nz ≥ 2` that returns). -/
theorem top_equal (nz : Nat) (dt : K) (co da daz cd dz xs : List K) (h2 : 2 ≤ nz)
    (hxs : diffusion nz dt co da daz cd dz = .ok xs) :
    ∃ t, xs[nz - 1]? = some t ∧ xs[nz - 2]? = some t := by
  obtain ⟨n, rfl⟩ := Nat.exists_eq_add_of_le' h2
  obtain ⟨xs', rfl, hlen, hs⟩ := returned_shape hxs
  rw [levelsFrom_succ] at hs
  have ht := interior_top hs
  rw [levelsFrom_length] at ht
  have hn : n < (co.getD 0 0 :: xs').length := by simp; omega
  exact ⟨(co.getD 0 0 :: xs')[n], by
    rw [show n + 2 - 1 = n + 1 from rfl, ht, List.getElem?_eq_getElem hn],
    List.getElem?_eq_getElem hn⟩

omit [LinearOrder K] [IsStrictOrderedRing K] in
/-- T2. Conservation: the heat content of the interior column (levels `1 … nz-2`, weights
    `da[i]·dz[i]`) changes by exactly `dt` × the diffusive flux through its lowest interface,
    `cddz[1]·(x[0] − x[1])` with `cddz[1] = 2·daz[1]·cd[1]/(dz[1]+dz[0])`; nothing passes through
    the top interface because the top two levels are equal. Holds for every call with `nz ≥ 2`
    that returns (no sign conditions needed). `sumFrom f 1 (nz-2) = Σ_{i=1}^{nz-2} f i`. -/
theorem interior_conservation (nz : Nat) (dt : K) (co da daz cd dz xs : List K) (h2 : 2 ≤ nz)
    (hxs : diffusion nz dt co da daz cd dz = .ok xs) :
    sumFrom (fun i => da.getD i 0 * dz.getD i 0 * (xs.getD i 0 - co.getD i 0)) 1 (nz - 2) =
      dt * (2 * daz.getD 1 0 * cd.getD 1 0 / (dz.getD 1 0 + dz.getD 0 0)) *
        (xs.getD 0 0 - xs.getD 1 0) := by
  obtain ⟨n, rfl⟩ := Nat.exists_eq_add_of_le' h2
  have hc := (diffusion_eq_ok.mp hxs).1
  obtain ⟨xs', rfl, hlen, hs⟩ := returned_shape hxs
  have hnz : ∀ q ∈ (levelsFrom co da daz cd dz 1 (n + 1)).dropLast, q.dz ≠ 0 ∧ q.da ≠ 0 := by
    rw [levelsFrom_dropLast]
    exact forall_mem_levelsFrom.mpr fun i hi1 hi2 =>
      have := (pyChecks_eq_none.mp hc).2 i ⟨hi1, by omega⟩
      ⟨this.1, this.2.2.1⟩
  have hsum := interiorSum_levelsFrom co da daz cd dz (co.getD 0 0 :: xs') n 1 (by simp; omega)
  rw [levelsFrom_succ] at hnz hs hsum
  rw [show n + 2 - 2 = n from rfl, ← hsum, List.drop_one, List.tail_cons,
    interior_telescope hnz hs]
  obtain ⟨x1, rest, rfl⟩ := List.exists_cons_of_length_eq_add_one hlen
  rfl

/-- T3 (discrete maximum principle). For admissible inputs (`cd ≥ 0`, `da, daz, dz > 0`,
    `dt ≥ 0`) every new value lies between any lower bound `m` and upper bound `M` of the old
    values `co[0 … nz-2]`: no new minimum or maximum is created. The old top value `co[nz-1]` is
    never read by the code and does not enter. -/
theorem max_principle (nz : Nat) (dt : K) (co da daz cd dz xs : List K)
    (h : Admissible nz dt co da daz cd dz) (hxs : diffusion nz dt co da daz cd dz = .ok xs)
    (m M : K) (hb : ∀ j, j + 2 ≤ nz → m ≤ co.getD j 0 ∧ co.getD j 0 ≤ M) :
    ∀ x ∈ xs, m ≤ x ∧ x ≤ M := by
  obtain ⟨_, _, rfl⟩ := diffusion_eq_ok.mp hxs
  have h2 := h.nz_ge
  rw [mkLevels_eq]
  refine diffusion_levels_bounded h.dt_nonneg (by rwa [levelsFrom_length]) (admissible_levels h) ?_
  rw [levelsFrom_dropLast]
  exact forall_mem_levelsFrom.mpr fun i _ hi => hb i (by omega)

theorem exists_argmin {α : Type} [LinearOrder α] (f : Nat → α) (n : Nat) :
    ∃ j, j ≤ n ∧ ∀ i, i ≤ n → f j ≤ f i := by
  induction n with
  | zero => exact ⟨0, le_rfl, fun i hi => by rw [Nat.le_zero.mp hi]⟩
  | succ n ih =>
    obtain ⟨j, hj, hmin⟩ := ih
    rcases le_total (f j) (f (n + 1)) with hjn | hjn
    · refine ⟨j, by omega, fun i hi => ?_⟩
      rcases Nat.le_succ_iff.mp hi with hi | rfl
      exacts [hmin i hi, hjn]
    · refine ⟨n + 1, le_rfl, fun i hi => ?_⟩
      rcases Nat.le_succ_iff.mp hi with hi | rfl
      exacts [hjn.trans (hmin i hi), le_rfl]

theorem exists_argmax {α : Type} [LinearOrder α] (f : Nat → α) (n : Nat) :
    ∃ j, j ≤ n ∧ ∀ i, i ≤ n → f i ≤ f j :=
  exists_argmin (α := αᵒᵈ) f n

/-- T3, min/max form: every new value is at least the smallest and at most the largest of the
    old values `co[0 … nz-2]` (both attained at some index `j ≤ nz-2`). -/
theorem max_principle_attained (nz : Nat) (dt : K) (co da daz cd dz xs : List K)
    (h : Admissible nz dt co da daz cd dz) (hxs : diffusion nz dt co da daz cd dz = .ok xs) :
    ∀ x ∈ xs, (∃ j, j + 2 ≤ nz ∧ co.getD j 0 ≤ x) ∧ (∃ j, j + 2 ≤ nz ∧ x ≤ co.getD j 0) := by
  obtain ⟨j, hjn, hj⟩ := exists_argmin (fun i => co.getD i 0) (nz - 2)
  obtain ⟨j', hjn', hj'⟩ := exists_argmax (fun i => co.getD i 0) (nz - 2)
  have h2 := h.nz_ge
  intro x hx
  have := max_principle nz dt co da daz cd dz xs h hxs (co.getD j 0) (co.getD j' 0)
    (fun i hi => ⟨hj i (by omega), hj' i (by omega)⟩) x hx
  exact ⟨⟨j, by omega, this.1⟩, ⟨j', by omega, this.2⟩⟩

/-- Corollary of T3: a profile that is uniform below the (unread) top level stays uniform, and
    the top level joins it. -/
theorem uniform_fixed (nz : Nat) (dt : K) (co da daz cd dz xs : List K)
    (h : Admissible nz dt co da daz cd dz) (hxs : diffusion nz dt co da daz cd dz = .ok xs)
    (T : K) (hu : ∀ j, j + 2 ≤ nz → co.getD j 0 = T) : ∀ x ∈ xs, x = T := by
  intro x hx
  have := max_principle nz dt co da daz cd dz xs h hxs T T
    (fun j hj => by rw [hu j hj]; exact ⟨le_rfl, le_rfl⟩) x hx
  exact le_antisymm this.2 this.1

/-! ### The solvers (`RSMDef.invert`, `Element.invert`) return exact solutions -/

omit [LinearOrder K] [IsStrictOrderedRing K] [DecidableEq K] in
/-- T4 (solver). `invert` returns an exact solution of the system it is given whenever no pivot
    vanishes (re-export of `Uwg.solve_sound`). -/
theorem solver_exact (rs : List (Row K)) (hp : Pivots rs) : Sat 0 rs (solve rs) :=
  solve_sound rs hp

omit [DecidableEq K] in
/-- Every strictly diagonally dominant tridiagonal system (entries of any sign) is solved
    exactly (re-export of `Uwg.solve_sound_of_sdd`). -/
theorem solver_exact_of_sdd (rs : List (Row K)) (h : ∀ r ∈ rs, SDD r) : Sat 0 rs (solve rs) :=
  solve_sound_of_sdd rs h

omit [DecidableEq K] in
/-- Every system of M-matrix rows (the shape uwg builds, incl. weakly dominant rows) is solved
    exactly. -/
theorem solver_exact_of_mrows (rs : List (Row K)) (h : ∀ r ∈ rs, MRow r) : Sat 0 rs (solve rs) :=
  solve_sound rs (pivots_of_mrows rs h)

omit [LinearOrder K] [IsStrictOrderedRing K] [DecidableEq K] in
/-- The exact solution is unique, so "the" solution is what the solver returns (re-export of
    `Uwg.sat_unique_solve`). -/
theorem solver_unique (rs : List (Row K)) (hp : Pivots rs) (xs : List K) (h : Sat 0 rs xs) :
    xs = solve rs := sat_unique_solve rs hp xs h

omit [LinearOrder K] [IsStrictOrderedRing K] in
/-- `invert` with Python's ZeroDivisionError: whenever it returns, for any system at all, the
    result has one entry per equation, solves every equation exactly, and is the only solution. -/
theorem solveChecked_exact (rs : List (Row K)) (xs : List K) (h : solveChecked rs = .ok xs) :
    Sat 0 rs xs ∧ xs.length = rs.length ∧ ∀ ys, Sat 0 rs ys → ys = xs := by
  obtain ⟨hp, rfl⟩ := solveChecked_eq_ok.mp h
  exact ⟨solve_sound rs hp, solve_length rs, sat_unique_solve rs hp⟩

/-- On a strictly diagonally dominant system `invert` does not raise and returns the exact
    solution. -/
theorem solveChecked_of_sdd (rs : List (Row K)) (h : ∀ r ∈ rs, SDD r) :
    ∃ xs, solveChecked rs = .ok xs ∧ Sat 0 rs xs :=
  ⟨solve rs, solveChecked_eq_ok.mpr ⟨pivots_of_sdd rs h, rfl⟩, solve_sound_of_sdd rs h⟩

/-! ### Non-vacuity: a concrete three-level call meets every hypothesis. -/

example : Admissible 3 (300 : ℚ) [290, 291, 295] [1, 1, 1] [1, 1, 1, 1] [1, 2, 0, 3]
    [4, 5, 6, 7, 8] where
  nz_ge := by norm_num
  len_co := rfl
  len_da := rfl
  len_daz := rfl
  len_cd := rfl
  len_dz := by simp
  dt_nonneg := by norm_num
  da_pos := by decide
  daz_pos := by decide
  cd_nonneg := by decide
  dz_pos := by decide

example : ∀ r ∈ ([⟨0, 2, -1, 1⟩, ⟨1, -3, 1, 0⟩, ⟨-1, 4, 0, 5⟩] : List (Row ℚ)), SDD r := by
  intro r hr
  simp only [List.mem_cons, List.mem_nil_iff, or_false] at hr
  rcases hr with rfl | rfl | rfl <;> (unfold SDD; norm_num [abs_of_pos, abs_of_neg])

end Uwg.C16
