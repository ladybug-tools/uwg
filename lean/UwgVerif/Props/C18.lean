/-
C18 — Vegetation acts exactly in the configured season, consistently.
-/
import UwgVerif.Model.Season
import Mathlib.Tactic.Ring

namespace Uwg.C18

/-- T1. The season test of the surface-flux model and that of the reflection model are the same expression
    (`Model/Season`), hence `rfl`. What this says of the code lies in the check's two ties: each definition is run
    against its own Python test (element.py, solarcalcs.py) on all 12 × 12 × 12 month / start / end combinations. -/
theorem season_agree (m s e : Nat) : offSeasonElement m s e = offSeasonSolar m s e := rfl

theorem offSeasonElement_eq_false_iff (m s e : Nat) :
    offSeasonElement m s e = false ↔ (s ≤ m ∧ m ≤ e) := by
  simp [offSeasonElement]

/-- T1'. For a start month not after the end month, vegetation is active exactly in the months
    from start to end inclusive. (The hypothesis is not needed: for `e < s` no month satisfies the right
    side, and `wraparound_never_in_season` says the same of the left.) -/
theorem in_season_iff (m s e : Nat) (_h : s ≤ e) :
    offSeasonElement m s e = false ↔ (s ≤ m ∧ m ≤ e) :=
  offSeasonElement_eq_false_iff m s e

/-- Wrap-around (`start > end`, reported separately by the property): both models are then
    off-season in every month — the season is empty, it does not wrap. -/
theorem wraparound_never_in_season (m s e : Nat) (h : e < s) :
    offSeasonElement m s e = true ∧ offSeasonSolar m s e = true :=
  have h' := Bool.of_not_eq_false (mt (offSeasonElement_eq_false_iff m s e).1 (by omega))
  ⟨h', h'⟩

variable {K : Type} [Field K]

theorem surfFluxHorizontal_true (i : SurfIn K) :
    surfFluxHorizontal true i =
      { solAbs := (1 - i.albedo) * i.solRec
        lat := i.soilLat + 0
        sens := 0 + i.aeroCond * (i.tSurf - i.tempRef)
        flux := (1 - i.albedo) * i.solRec + i.infra - (i.soilLat + 0) -
          (0 + i.aeroCond * (i.tSurf - i.tempRef)) } :=
  rfl

/-- T2. Off season the horizontal surface behaves as bare ground: absorbed, latent, sensible and
    net flux do not depend on vegetation albedo, latent fractions or any vegetation cover. -/
theorem off_season_bare (i j : SurfIn K)
    (h : i.albedo = j.albedo ∧ i.solRec = j.solRec ∧ i.infra = j.infra ∧ i.soilLat = j.soilLat ∧
         i.aeroCond = j.aeroCond ∧ i.tSurf = j.tSurf ∧ i.tempRef = j.tempRef) :
    surfFluxHorizontal true i = surfFluxHorizontal true j := by
  obtain ⟨h1, h2, h3, h4, h5, h6, h7⟩ := h
  rw [surfFluxHorizontal_true, surfFluxHorizontal_true, h1, h2, h3, h4, h5, h6, h7]

/-- T2 (explicit form). Off season: `solAbs = (1 − albedo)·solRec`, no vegetation latent or
    sensible heat: the `+ 0` and `0 +` are the vegetation terms, written as the definition unfolds. -/
theorem off_season_formula (i : SurfIn K) :
    (surfFluxHorizontal true i).solAbs = (1 - i.albedo) * i.solRec ∧
    (surfFluxHorizontal true i).lat = i.soilLat + 0 ∧
    (surfFluxHorizontal true i).sens = 0 + i.aeroCond * (i.tSurf - i.tempRef) := by
  rw [surfFluxHorizontal_true]
  exact ⟨rfl, rfl, rfl⟩

/-- T2 for the reflection model: off season the road albedo is the bare pavement albedo. -/
theorem off_season_road_albedo (a vc va : K) : roadAlbedo true a vc va = a := by
  simp [roadAlbedo]

/-- T3. In season the vegetated fraction absorbs with the vegetation albedo, the rest with the element's own,
    on the road element and on any other. -/
theorem in_season_formula (i : SurfIn K) :
    (surfFluxHorizontal false i).solAbs =
      ((1 - i.vegcoverage) * (1 - i.albedo) + i.vegcoverage * (1 - i.vegAlbedo)) * i.solRec := by
  unfold surfFluxHorizontal
  cases i.roadCover with
  | none => simp
  | some p => obtain ⟨g, t⟩ := p; simp

/-- T3 (partition). On an element that is not the road, the latent and sensible heat of the vegetation add up
    to the sunlight the vegetated fraction absorbs. On the road the two are weighted by grass and tree cover
    instead of `vegcoverage`, and no sum is stated. -/
theorem in_season_partition_nonroad (i : SurfIn K) (h : i.roadCover = none) :
    ((surfFluxHorizontal false i).lat - i.soilLat) +
      ((surfFluxHorizontal false i).sens - i.aeroCond * (i.tSurf - i.tempRef)) =
      i.vegcoverage * (1 - i.vegAlbedo) * i.solRec := by
  simp only [surfFluxHorizontal, h, Bool.false_eq_true, if_false]
  ring

theorem in_season_road_albedo (a vc va : K) :
    roadAlbedo false a vc va = a * (1 - vc) + va * vc := by simp [roadAlbedo]

/-- T2 for the canyon air: off season vegetation releases no sensible or latent heat, whatever
    the vegetation parameters. -/
theorem off_season_no_veg_heat (va tF gF r tc vc : K) : vegHeat true va tF gF r tc vc = (0, 0) := by
  simp [vegHeat]

/-- T3 for the canyon air: in season the sensible and latent vegetation heat add up to the
    sunlight absorbed by the vegetated fraction. -/
theorem in_season_veg_heat_partition (va tF gF r tc vc : K) :
    (vegHeat false va tF gF r tc vc).1 + (vegHeat false va tF gF r tc vc).2 = (1 - va) * r * vc := by
  simp only [vegHeat, Bool.false_eq_true, if_false]
  ring

theorem offSeasonElementAsis_eq_true_iff (m s e : Nat) :
    offSeasonElementAsis m s e = true ↔ (m < s ∧ e < m) := by
  simp [offSeasonElementAsis]

/-- T4. The unrepaired test (`and`) is never off-season for a normal season. -/
theorem asis_never_off (m s e : Nat) (h : s ≤ e) : offSeasonElementAsis m s e = false :=
  Bool.of_not_eq_true (mt (offSeasonElementAsis_eq_true_iff m s e).1 (by omega))

/-- T4 witness: January with season April..October — the repaired test is off-season, the old one
    was not, while the reflection model was already off-season (the two disagreed). -/
theorem asis_disagrees : offSeasonElementAsis 1 4 10 = false ∧ offSeasonSolar 1 4 10 = true ∧
    offSeasonElement 1 4 10 = true := by decide

end Uwg.C18
