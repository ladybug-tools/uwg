/-
C06 — All construction routes and serialisation round trips are equivalent (T1–T5 below; the round trips of the
five record classes, `material_from_to` … `bemdef_from_to`, are in `Lemmas/C06Records.lean`). The parameter table
`Gen/ParamTable.lean` is regenerated from `uwg/uwg.py` on every run.

What the theorems do NOT cover (left to the harness, `harness/props/c06.py`):
  * the csv/`open` layer (line endings, quoting) that turns text into rows;
  * `json.dumps`/`json.loads` (the model's `J` is the tree *after* parsing);
  * the command-line wrappers, and that equal parameter records simulate identically (C05);
  * IEEE rounding: the cover-sum and `bld`-sum assertions are exact here, floating point in Python.
-/
import UwgVerif.Lemmas.C06RoundTrip
import UwgVerif.Lemmas.C06Reader
import UwgVerif.Lemmas.C06Char

namespace Uwg.C06
open Uwg.Gen

/-! ## T5 — the parameter table is closed -/

/-- for the clause `∃ k, kindOf n = .opt k` of T5, which is not decidable as written -/
instance (k : Kind) : Decidable (∃ k', k = .opt k') :=
  match k with
  | .opt k' => isTrue ⟨k', rfl⟩
  | .intRange .. | .intMin _ | .fltRange .. | .fltMin _ | .fltExcl _ | .boolNum | .zone | .bld | .sch
  | .cover .. | .unknown => isFalse nofun

/-- for the clause `∀ n, n ∈ optionalSet ↔ n ∈ initNone` of T5 (unbounded quantifier): two bounded inclusions -/
instance {α : Type} [DecidableEq α] (l₁ l₂ : List α) : Decidable (∀ a, a ∈ l₁ ↔ a ∈ l₂) :=
  decidable_of_iff ((∀ a ∈ l₁, a ∈ l₂) ∧ ∀ a ∈ l₂, a ∈ l₁)
    ⟨fun h a => ⟨h.1 a, h.2 a⟩, fun h => ⟨fun a => (h a).1, fun a => (h a).2⟩⟩

/-- T5. Every name of `PARAMETER_LIST` has a recognised setter kind (the table lists exactly
    `PARAMETER_LIST`, in order, without duplicates); `to_dict`, `from_dict` and the tail of
    `_read_input` are the plain loops over `PARAMETER_LIST` the model assumes; every name is its
    own lower-cased, space-free form, contains no `#` and is not a reference building type, so the
    reader's `clean` reaches it and never mistakes it for a comment or a `bld` row; the optional set is
    exactly the set of names with an `opt` setter and exactly what `__init__` presets to `None`; the
    keyword route assigns every non-optional name exactly once; the cover setters are closed and the
    names `type`, `ref_sch_vector`, `ref_bem_vector` are free. Re-proved by `decide` against the table
    regenerated from the current source. -/
theorem table_closed :
    (∀ n ∈ paramList, kindOf n ≠ .unknown) ∧
    setterKinds.map Prod.fst = paramList ∧
    paramList.Nodup ∧
    toDictLoop = true ∧ fromDictLoop = true ∧ readerLoop = true ∧
    (∀ n ∈ paramList, clean n = n ∧ '#' ∉ n ∧ n ∉ REF_BLDTYPES) ∧
    (∀ n ∈ paramList, n ∈ optionalSet ↔ ∃ k, kindOf n = .opt k) ∧
    (∀ n, n ∈ optionalSet ↔ n ∈ initNone) ∧
    (∀ n ∈ optionalSet, n ∈ paramList) ∧
    kwargsOrder.Nodup ∧
    (∀ n ∈ paramList, n ∈ kwargsOrder ↔ n ∉ optionalSet) ∧
    (∀ n ∈ kwargsOrder, n ∈ paramList) ∧
    coverClosedB = true ∧ tableOK = true := by
  decide +kernel

theorem tableFacts : TableFacts := by
  obtain ⟨_, h2, _, _, _, _, _, h8, h9, h10, _, h12, h13, h14, h15⟩ := table_closed
  exact ⟨h15, h14, h2, fun n hn => (h8 n (h10 n hn)).1 hn, h9, h10, h13, h12⟩

/-- `to_dict` emits every `PARAMETER_LIST` name (or fails as a whole with AttributeError) -/
theorem toDict_emits_all (b : Bool) (m : UWG) (d : J) (h : m.toDict b = .ok d) :
    ∀ n ∈ paramList, ∃ v, d.get n = .ok v := by
  have hall : ∀ k ∈ paramList, alookup k m.st = some (m.attr k) := by
    intro k hk
    unfold UWG.toDict at h
    split at h
    · cases h
    · rename_i ps hps
      obtain ⟨v, hv⟩ := getAttrs_ok hps k hk
      simp [UWG.attr, hv]
  rw [UWG.toDict_returns m.attr b m hall] at h
  cases h
  exact fun n hn => ⟨m.attr n, dictOf_get m.attr _ tableFacts.ok hn⟩

/-- `from_dict` consumes every `PARAMETER_LIST` name: a dictionary lacking one is rejected (KeyError) -/
theorem fromDict_needs_all (d : J) (m : UWG) (h : UWG.fromDict d = .ok m) :
    ∀ n ∈ paramList, ∃ v, d.get n = .ok v := by
  obtain ⟨_, st, hrun, _⟩ := UWG.fromDict_eq_ok.1 h
  exact runSetters_src_ok hrun

/-! ## T1 / T2 — dictionary round trips -/

/-- T1. For every valid model `m` (every parameter holds a value its setter stores, the cover fractions
    sum to at most one, the custom reference vectors are absent or non-empty, pairwise matching and made
    of valid BEMDef/SchDef objects — `heat_cap` included), `to_dict(include_refDOE=True)` succeeds and
    `from_dict` of the result succeeds with the same parameter record and the same custom vectors. -/
theorem from_to_dict (m : UWG) (h : m.Valid) :
    ∃ d m', m.toDict true = .ok d ∧ UWG.fromDict d = .ok m' ∧ UWG.Same m m' := by
  obtain ⟨d, m', h1, h2, h3, h4⟩ := round_trip_core m tableFacts h.toParamsValid (fun _ => h.refs)
  rw [h.refs.emitted] at h4
  exact ⟨d, m', h1, h2, h3, (congrArg Prod.fst h4).symm, (congrArg Prod.snd h4).symm⟩

/-- T2. `to_dict` is stable under a round trip: serialising the round-tripped model gives the same
    dictionary again. -/
theorem to_from_to (m : UWG) (h : m.Valid) (d : J) (m' : UWG)
    (h1 : m.toDict true = .ok d) (h2 : UWG.fromDict d = .ok m') : m'.toDict true = .ok d := by
  obtain ⟨d0, m0, e1, e2, hs⟩ := from_to_dict m h
  rw [h1] at e1; cases e1
  rw [h2] at e2; cases e2
  rw [← UWG.toDict_congr true hs, h1]

/-- An *empty* custom vector is dropped: `to_dict` omits falsy vectors, so `[]` comes back as `None`
    (both mean "no custom reference data"); the parameters are unaffected. -/
theorem from_to_dict_empty_refs (m : UWG) (h : m.ParamsValid)
    (he : m.refBem = some [] ∨ m.refSch = some []) :
    ∃ d m', m.toDict true = .ok d ∧ UWG.fromDict d = .ok m' ∧
      (∀ n ∈ paramList, alookup n m.st = alookup n m'.st) ∧ m'.refBem = none ∧ m'.refSch = none := by
  have hf : (truthy m.refBem && truthy m.refSch) = false := by
    rcases he with he | he <;> simp [he, truthy]
  obtain ⟨d, m', h1, h2, h3, h4⟩ := round_trip_core m tableFacts h (fun t => by rw [hf] at t; cases t)
  simp [hf] at h4
  exact ⟨d, m', h1, h2, h3, h4.1, h4.2⟩

theorem upper_zone_fixed : ∀ z ∈ REF_ZONES, upper z = z := by decide

/-- What a setter stores is a fixed point of that setter (normalisation is idempotent): every value
    produced by any construction route satisfies the per-parameter hypothesis of T1. -/
theorem setters_store_fixpoints (k : Kind) (v v' : J) (h : norm k v = .ok v') : Stored k v' := by
  induction k generalizing v v' with
  | intRange lo hi => exact checkIntRange_stored h
  | intMin lo => exact checkIntRange_stored h
  | fltRange lo hi => exact checkRange_stored h
  | fltMin lo => exact checkRange_stored h
  | fltExcl lo => exact checkExclMin_stored h
  | cover a b => exact checkRange_stored h
  | bld => exact normBld_stored h
  | sch => cases checkWeek_ok h; exact h
  | boolNum =>
    simp only [norm] at h
    split at h <;> cases h <;> rfl
  | zone =>
    simp only [norm] at h
    split at h
    · split at h
      · rename_i s hz; cases h
        simp [Stored, norm, upper_zone_fixed _ hz, hz]
      · cases h
    · cases h
  | opt k ih =>
    simp only [norm] at h
    split at h
    · cases h; rfl
    · have := ih v v' h
      unfold Stored at this ⊢
      cases v' with
      | null => rfl
      | _ => simpa [norm] using this
  | unknown => simp [norm] at h

/-! ## T3 — the reader is independent of the layout -/

/-- the parsed map of an entry list: the entries themselves, read as an association list -/
def mapOf (es : List (Str × J)) : Dict := es

/-- A layout of the entry list `es`: a sequence of pieces — filler rows (blank lines `[]`, rows whose
    first cell contains `#`) and entry blocks (one `key,value,...` row; a `schtraffic` header followed by
    its three rows; a `bld` header followed by its type rows) — whose entry blocks, in file order, spell
    a permutation of `es`. Fillers stand *between* blocks only; key case, spaces inside cells, trailing
    cells and the spelling of numbers are free because an entry's meaning (`Entry.sem`) is computed from
    the cleaned cells. -/
structure Layout (es : List (Str × J)) where
  pieces : List Piece
  wf : ∀ p ∈ pieces, p.WF
  perm : (sems pieces).Perm es

def layout (es : List (Str × J)) (L : Layout es) : List Row := render L.pieces

/-- T3. For entries with distinct keys, every layout of them is read to a dictionary that maps each
    key to its entry's value and nothing else (equality as finite maps: Python dict order differs with
    the permutation). Side conditions that make a block an entry are in `Entry.sem`: a one-row entry's
    key must not contain `#` nor be a reference building type, and its value must be a `float()` token
    (empty allowed for the optional names; any text for `zone`). -/
theorem reader_layout_invariant (es : List (Str × J)) (hnd : (es.map Prod.fst).Nodup)
    (L : Layout es) :
    ∃ m, readInput (layout es L) = .ok m ∧ ∀ k, alookup k m = alookup k (mapOf es) := by
  have hnd' : ((sems L.pieces).map Prod.fst).Nodup := (L.perm.map Prod.fst).nodup_iff.mpr hnd
  refine ⟨_, readInput_render L.pieces L.wf, fun k => ?_⟩
  rw [alookup_assign k _ [] hnd', mapOf, ← alookup_perm L.perm hnd' k]
  cases alookup k (sems L.pieces) <;> rfl

/-- Two layouts of the same entries (any permutation, any fillers between blocks, any decoration of the
    cells) give the same dictionary, hence — through the same `PARAMETER_LIST` loop — the same model. -/
theorem reader_layout_perm (es : List (Str × J)) (hnd : (es.map Prod.fst).Nodup)
    (L1 L2 : Layout es) :
    (∃ m1 m2, readInput (layout es L1) = .ok m1 ∧ readInput (layout es L2) = .ok m2 ∧
      ∀ k, alookup k m1 = alookup k m2) ∧
    UWG.fromFile (layout es L1) = UWG.fromFile (layout es L2) := by
  obtain ⟨m1, h1, e1⟩ := reader_layout_invariant es hnd L1
  obtain ⟨m2, h2, e2⟩ := reader_layout_invariant es hnd L2
  refine ⟨⟨m1, m2, h1, h2, fun k => by rw [e1, e2]⟩, ?_⟩
  simp only [UWG.fromFile, h1, h2]
  have : dictSrc m1 = dictSrc m2 := by
    funext n; simp only [dictSrc]; rw [e1, e2]
  rw [this]

/-- A malformed value raises, wherever it stands: after any well-formed prefix, a row that is not a
    type row and whose `if/elif` chain fails (missing value cell, non-numeric token) makes the repaired
    reader stop with that exception — for every continuation of the file. -/
theorem reader_malformed_raises (ps : List Piece) (hwf : ∀ p ∈ ps, p.WF) (row : Row) (rest : List Row)
    (e : Err) (ht : isTypeRow (row.map clean) = false) (hc : classify (row.map clean) = .fail e) :
    readInput (render ps ++ row :: rest) = .error e := by
  obtain ⟨pend', d', h1, _⟩ := rd_pieces ps hwf (row :: rest) none []
  simp only [readInput]
  rw [h1, rd_step_top pend' row rest d' ht, hc]

/-- `clean` ignores spaces anywhere in a cell. -/
theorem clean_space_insensitive (a b : Str) : clean (a ++ ' ' :: b) = clean (a ++ b) := by
  simp [clean, List.filter_append]

/-- `clean` ignores ASCII case: upper- or lower-casing any letters of a cell does not change it. -/
theorem clean_case_insensitive (s : Str) (f : Char → Char)
    (hf : ∀ c, f c = c ∨ f c = c.toUpper ∨ f c = c.toLower) : clean (s.map f) = clean s := by
  -- `f` neither changes which characters are spaces nor what they are lower-cased to
  simp only [clean, lower, List.filter_map, List.map_map, Function.comp_def, ne_eq,
    fun c => (case_variant (hf c)).1, fun c => propext (case_variant (hf c)).2]

/-- Why fillers are only claimed *between* blocks: a comment row inside a `schtraffic` block is taken
    as schedule data, one directly after the `bld` header ends the block before it began (the type rows
    are then read as ordinary parameters and rejected). -/
theorem filler_inside_block_changes_meaning :
    readInput [[cs! "schtraffic"], [cs! "# c"], [cs! "1"], [cs! "2"], [cs! "3"]] ≠
      readInput [[cs! "schtraffic"], [cs! "1"], [cs! "2"], [cs! "3"]] ∧
    readInput [[cs! "bld"], [cs! "# c"], [cs! "hospital", cs! "new", cs! "1"]] = .error .exc ∧
    (∃ d, readInput [[cs! "bld"], [cs! "hospital", cs! "new", cs! "1"], [cs! "# c"]] = .ok d) := by
  refine ⟨by decide +kernel, by decide +kernel,
    ⟨[(cs! "bld", .list [.list [.str (cs! "hospital"), .str (cs! "new"), .num (.flt 1)]])],
     by decide +kernel⟩⟩

/-! ## the hang of the unrepaired reader -/

/-- Before the repair the reader never got past a non-numeric value: on the single row
    `bldheight,abc` the cursor stays where it is for every amount of fuel. -/
theorem asis_reader_diverges (fuel : Nat) (d : Dict) :
    rdAsis fuel [[cs! "bldheight", cs! "abc"]] d = none :=
  rdAsis_stuck (e := .exc) (by decide +kernel) [] fuel d

/-- The repaired reader (which cannot loop: `rd` is a structural recursion) raises on that row. -/
theorem repaired_reader_raises : readInput [[cs! "bldheight", cs! "abc"]] = .error .exc := by
  decide +kernel

/-! ## T4 — the construction routes agree on the parameter record -/

/-- T4 (keyword route vs dictionary route), for models without custom reference vectors (`hrefs`; both routes are
    run with `ref_bem_vector = ref_sch_vector = None`). Give both routes the same values `val n`: the dictionary
    binds every `PARAMETER_LIST` name, the keyword call binds every argument of `from_param_args`, and
    the optional overrides listed in `xs` are afterwards assigned as attributes (every optional
    parameter not in `xs` has the value `None`). Then one route accepts iff the other does, and they
    produce the same parameter record — although the setters run in different orders, so that the
    cover-sum assertion is evaluated by a different setter.
    (Exact arithmetic. In floating point the order of that sum matters: before repair 131094e the three setters added
    in different orders and the routes disagreed on a boundary case, `known_findings.json`; the check probes that
    boundary, `cover_boundary_probe` in `harness/props/c06.py`.) -/
theorem routes_agree (val : Str → J) (d kw : J) (xs : List Str)
    (hty : checkType (cs! "UWG") d = .ok ()) (hrefs : UWG.refsFromDict d = .ok (none, none))
    (hd : ∀ n ∈ paramList, d.get n = .ok (val n))
    (hkw : ∀ n ∈ kwargsOrder, kw.get n = .ok (val n))
    (hxs : ∀ n ∈ xs, n ∈ optionalSet) (hnull : ∀ n ∈ optionalSet, n ∉ xs → val n = .null) :
    (∀ m1, UWG.fromDict d = .ok m1 →
      ∃ m2, UWG.fromKwargs kw (xs.map fun n => (n, val n)) none none = .ok m2 ∧ UWG.Same m1 m2) ∧
    (∀ m2, UWG.fromKwargs kw (xs.map fun n => (n, val n)) none none = .ok m2 →
      ∃ m1, UWG.fromDict d = .ok m1 ∧ UWG.Same m1 m2) := by
  have hmap : (xs.map fun n => (n, val n)).map (·.1) = xs := by
    simp [List.map_map, Function.comp_def]
  have hX : ∀ n ∈ xs, extraSrc (xs.map fun n => (n, val n)) n = .ok (val n) := by
    intro n hn
    simp [extraSrc, alookup_map_self, hn]
  have tf := tableFacts
  rw [UWG.fromDict_of_refs_none hty hrefs, fromKwargs_of_refs_none, hmap]
  simp only [Except.map_eq_ok]
  constructor
  · -- what the dictionary route assigned is admissible, and the keyword route assigns names from among it
    rintro _ ⟨st1, hr1, rfl⟩
    obtain ⟨hinv1, hcov1⟩ := runSetters_ok (seen := []) tf hd hr1 stInv_init covInv_nil
    obtain ⟨sa, hra, hinva⟩ := runSetters_returns (seen := []) tf hcov1 hkw tf.kwMem nofun stInv_init
    obtain ⟨sb, hrb, hinvb⟩ := runSetters_returns tf hcov1 hX (fun n hn => tf.optMem n (hxs n hn)) tf.kwMem
      hinva
    exact ⟨_, ⟨sb, Except.bind_eq_ok.2 ⟨sa, hra, hrb⟩, rfl⟩, stInv_routes_agree tf hnull hinv1 hinvb, rfl,
      rfl⟩
  · -- what the keyword route assigned is admissible, and stays so with the optional names it left at `None`
    rintro _ ⟨sb, hb, rfl⟩
    obtain ⟨sa, hra, hrb⟩ := Except.bind_eq_ok.1 hb
    obtain ⟨hinva, hcova⟩ := runSetters_ok (seen := []) tf hkw hra stInv_init covInv_nil
    obtain ⟨hinvb, hcovb⟩ := runSetters_ok tf hX hrb hinva hcova
    obtain ⟨st1, hr1, hinv1⟩ := runSetters_returns (seen := []) tf (hcovb.of_kwargs tf hnull) hd (fun _ h => h)
      nofun stInv_init
    exact ⟨_, ⟨st1, hr1, rfl⟩, stInv_routes_agree tf hnull hinv1 hinvb, rfl, rfl⟩

/-- T4 (file route vs dictionary route). If the parsed map of a parameter file binds every
    `PARAMETER_LIST` name (and does not use the names of the reference vectors), `from_param_file`
    builds exactly the model `from_dict` builds from that map read as a dictionary — the numbers being
    the `float`s the reader produced. With T3 this holds for every layout of the file. -/
theorem routes_agree_file (rows : List Row) (d0 : Dict) (hread : readInput rows = .ok d0)
    (hall : ∀ n ∈ paramList, (alookup n d0).isSome)
    (hs : alookup (cs! "ref_sch_vector") d0 = none) (hb : alookup (cs! "ref_bem_vector") d0 = none) :
    UWG.fromFile rows = UWG.fromDict (.obj ((cs! "type", .str (cs! "UWG")) :: d0)) := by
  have hty : checkType (cs! "UWG") (.obj ((cs! "type", .str (cs! "UWG")) :: d0)) = .ok () := by
    simp [checkType, J.get, alookup]
  have hrefs : UWG.refsFromDict (.obj ((cs! "type", .str (cs! "UWG")) :: d0)) = .ok (none, none) := by
    apply refsFromDict_none <;> simp only [J.get, alookup] <;> rw [if_neg (by decide)]
    · rw [hs]
    · rw [hb]
  have hsrc : ∀ n ∈ paramList, dictSrc d0 n =
      (fun n => (J.obj ((cs! "type", .str (cs! "UWG")) :: d0)).get n) n := by
    intro n hn
    have hne : n ≠ cs! "type" := fun h => (tableOK_free tableFacts.ok).1 (h ▸ hn)
    have := hall n hn
    cases hl : alookup n d0 with
    | none => rw [hl] at this; cases this
    | some v => simp [dictSrc, J.get, alookup, hne, hl]
  rw [UWG.fromDict_of_refs_none hty hrefs, ← runSetters_congr hsrc]
  unfold UWG.fromFile
  rw [hread]
  simp only []
  cases runSetters (dictSrc d0) paramList initSt <;> rfl

/-- Reachability: the hypothesis of T1 is not restrictive on the parameter side — every model that
    `from_dict` accepts has valid parameters (each holds a fixed point of its setter, and the cover sum
    holds in the order of each of the three setters, not only of the one that happened to test it). -/
theorem fromDict_params_valid (d : J) (m : UWG) (h : UWG.fromDict d = .ok m) : m.ParamsValid := by
  let val : Str → J := fun n => match d.get n with | .ok v => v | .error _ => .null
  have hsrc : ∀ n ∈ paramList, (fun n => d.get n) n = .ok (val n) := by
    intro n hn
    obtain ⟨v, hv⟩ := fromDict_needs_all d m h n hn
    simp [val, hv]
  obtain ⟨_, st, hrun, r, _, rfl⟩ := UWG.fromDict_eq_ok.1 h
  obtain ⟨hinv, hcov⟩ := runSetters_ok (seen := []) tableFacts hsrc hrun stInv_init covInv_nil
  have look : ∀ n ∈ paramList, alookup n st = some (nvOf val n) := by
    intro n hn
    rw [hinv n]
    exact if_pos hn
  have attr : ∀ n ∈ paramList, UWG.attr ⟨st, r.1, r.2⟩ n = nvOf val n := by
    intro n hn; simp only [UWG.attr, look n hn, Option.getD_some]
  constructor
  · intro n hn
    exact ⟨nvOf val n, look n hn, setters_store_fixpoints _ _ _ (hcov.1 n hn)⟩
  · intro n hn a b hk
    obtain ⟨_, ha, hb, _⟩ := cover_closure tableFacts hk
    unfold CoverOK
    rw [attr a ha, attr b hb, attr n hn]
    exact hcov.2 n a b hn ha hb hk

/-! ## non-vacuity -/

/-- Boolean form of `UWG.ParamsValid`, so that concrete models can be checked by evaluation -/
def UWG.paramsValidB (m : UWG) : Bool :=
  paramList.all (fun n =>
    match alookup n m.st with
    | none => false
    | some v =>
      decide (norm (kindOf n) v = .ok v) &&
      (match kindOf n with
       | .cover a b =>
         match numView (m.attr a), numView (m.attr b), numView (m.attr n) with
         | some p, some q, some r => decide (p + q + r ≤ 1)
         | _, _, _ => false
       | _ => true))

theorem paramsValidB_sound (m : UWG) (h : m.paramsValidB = true) : m.ParamsValid := by
  simp only [UWG.paramsValidB, List.all_eq_true] at h
  constructor
  · intro n hn
    have := h n hn
    split at this
    · cases this
    · rename_i v hv
      simp only [Bool.and_eq_true, decide_eq_true_eq] at this
      exact ⟨v, hv, this.1⟩
  · intro n hn a b hk
    have := h n hn
    split at this
    · cases this
    · simp only [Bool.and_eq_true, decide_eq_true_eq] at this
      have h2 := this.2
      rw [hk] at h2
      simp only at h2
      split at h2
      · rename_i p q r hp hq hr
        exact ⟨p, q, r, hp, hq, hr, by simpa using h2⟩
      · cases h2

/-- the Singapore example parameters as the keyword route stores them (ints stay ints) -/
def exampleSt : St :=
  [(cs! "shgc", .null), (cs! "flr_h", .null), (cs! "albroof", .null), (cs! "albwall", .null),
   (cs! "glzr", .num (.flt (1/4))), (cs! "vegroof", .null),
   (cs! "bldheight", .num (.int 10)), (cs! "blddensity", .num (.flt (1/2))),
   (cs! "vertohor", .num (.flt (4/5))), (cs! "zone", .str (cs! "1A")), (cs! "month", .num (.int 1)),
   (cs! "day", .num (.int 1)), (cs! "nday", .num (.int 31)), (cs! "dtsim", .num (.int 300)),
   (cs! "dtweather", .num (.int 3600)), (cs! "autosize", .bool false), (cs! "h_mix", .num (.int 1)),
   (cs! "sensocc", .num (.int 100)), (cs! "latfocc", .num (.flt (3/10))),
   (cs! "radfocc", .num (.flt (1/5))), (cs! "radfequip", .num (.flt (1/2))),
   (cs! "radflight", .num (.flt (7/10))),
   (cs! "bld", .list [.list [.str (cs! "largeoffice"), .str (cs! "pst80"), .num (.flt (2/5))],
                     .list [.str (cs! "midriseapartment"), .str (cs! "pst80"), .num (.flt (3/5))]]),
   (cs! "charlength", .num (.int 1000)), (cs! "albroad", .num (.flt (1/10))),
   (cs! "droad", .num (.flt (1/2))), (cs! "sensanth", .num (.int 20)), (cs! "kroad", .num (.int 1)),
   (cs! "croad", .num (.int 1600000)), (cs! "treecover", .num (.flt (1/10))),
   (cs! "grasscover", .num (.flt (2/5))), (cs! "vegstart", .num (.int 4)),
   (cs! "vegend", .num (.int 10)), (cs! "albveg", .num (.flt (1/4))),
   (cs! "rurvegcover", .num (.flt (9/10))), (cs! "latgrss", .num (.flt (2/5))),
   (cs! "lattree", .num (.flt (3/5))),
   (cs! "schtraffic", .list (List.replicate 3 (.list (List.replicate 24 (.num (.flt (1/5))))))),
   (cs! "h_ubl1", .num (.int 1000)), (cs! "h_ubl2", .num (.int 80)), (cs! "h_ref", .num (.int 150)),
   (cs! "h_temp", .num (.int 2)), (cs! "h_wind", .num (.int 10)), (cs! "c_circ", .num (.flt (6/5))),
   (cs! "c_exch", .num (.int 1)), (cs! "maxday", .num (.int 150)), (cs! "maxnight", .num (.int 20)),
   (cs! "windmin", .num (.int 1)), (cs! "h_obs", .num (.flt (1/10)))]

def exampleBuilding : Building :=
  ⟨.num (.flt (61/20)), .num (.flt 1), .num (.flt 2), .num (.flt (1/2)), .num (.flt (1/10)),
   .num (.flt (1/5)), .num (.flt (1/1000)), .num (.flt (1/4)), .num (.flt 3), .num (.flt (2/5)),
   cs! "AIR", .num (.flt 3), .num (.flt 200), .num (.flt (4/5)), .num (.int 293),
   .num (.flt (501/2))⟩     -- heat_cap 250.5, not the constructor default 999

def exampleElement (h : Bool) : Element :=
  ⟨.num (.flt (1/5)), .num (.flt (9/10)), .list [.num (.flt (1/10)), .num (.flt (1/20))],
   [⟨.str (cs! "concrete"), .num (.flt (13/10)), .num (.int 1800000)⟩,
    ⟨.str (cs! "gypsum"), .num (.flt (4/25)), .num (.flt 830000)⟩],
   .num (.int 0), .num (.int 293), h, .str (cs! "wall")⟩

def exampleWeek : J := .list (List.replicate 3 (.list (List.replicate 24 (.num (.flt (1/2))))))

def exampleBem : BEMDef :=
  ⟨exampleBuilding, exampleElement true, exampleElement false, exampleElement true, cs! "custom1", cs! "new"⟩

def exampleSch : SchDef :=
  ⟨exampleWeek, exampleWeek, exampleWeek, exampleWeek, exampleWeek, exampleWeek, exampleWeek,
   .num (.flt 10), .num (.flt 0), .num (.flt 8), .num (.flt (1/10)), .num (.flt (1/1000)),
   .num (.int 0), cs! "custom1", cs! "new"⟩

def exampleModel : UWG := ⟨exampleSt, some [exampleBem], some [exampleSch]⟩

theorem inR_intro {lo : Int} {hi : Option Int} {v : J} (x : Rat) (h1 : numView v = some x)
    (h2 : inRange lo hi x = true) : InR lo hi v := ⟨x, h1, h2⟩

/-- Non-vacuity of T1/T2: a model with an override (`glzr`), mixed ints and floats, and a custom
    BEMDef/SchDef pair whose `heat_cap` differs from the constructor default satisfies `UWG.Valid`. -/
example : exampleModel.Valid := by
  have hp : exampleModel.ParamsValid := paramsValidB_sound _ (by decide +kernel)
  have elemValid : ∀ h, (exampleElement h).Valid := by
    intro h
    refine ⟨inR_intro _ rfl (by decide +kernel), inR_intro _ rfl (by decide +kernel),
      ⟨_, rfl, rfl, by decide +kernel⟩, ?_, inR_intro _ rfl (by decide +kernel),
      inR_intro _ rfl (by decide +kernel)⟩
    intro m hm
    simp only [exampleElement, List.mem_cons, List.not_mem_nil, or_false] at hm
    rcases hm with rfl | rfl <;>
      exact ⟨⟨_, rfl, by decide +kernel⟩, ⟨_, rfl, by decide +kernel⟩⟩
  have bldValid : exampleBuilding.Valid := by
    refine ⟨?_, ?_, ?_, ?_, ?_, ?_, ?_, ?_, ?_, by decide, ?_, ?_, ?_, ?_, by decide⟩
    all_goals exact inR_intro _ rfl (by decide +kernel)
  have schValid : exampleSch.Valid := by
    have hw : IsWeek exampleWeek := by unfold IsWeek; decide +kernel
    refine ⟨hw, hw, hw, hw, hw, hw, hw, ?_, ?_, ?_, ?_, ?_, ?_, by decide⟩
    all_goals exact inR_intro _ rfl (by decide +kernel)
  refine ⟨hp, ?_⟩
  show RefsValid (some [exampleBem]) (some [exampleSch])
  refine ⟨by simp, by decide, ?_, ?_⟩
  · intro b hb
    simp only [List.mem_cons, List.not_mem_nil, or_false] at hb
    subst hb
    exact ⟨bldValid, elemValid _, elemValid _, elemValid _, by decide⟩
  · intro s hs
    simp only [List.mem_cons, List.not_mem_nil, or_false] at hs
    subst hs
    exact schValid

def examplePieces : List Piece :=
  [.filler [cs! "# Urban characteristics"],
   .entry (.sch [cs! " SchTraffic "] [cs! "0.2", cs! " 0.4"] [cs! "1"] [cs! "0.5", cs! "", cs! "# Sunday"]),
   .filler [],
   .entry (.scalar [cs! "bld Height", cs! " 10 ", cs! " # m"]),
   .entry (.scalar [cs! "ALBROOF", cs! ""]),
   .entry (.bld [cs! "BLD"] [[cs! "LargeOffice", cs! " Pst80", cs! "0.4"],
                              [cs! "Hospital", cs! "new", cs! ".6", cs! "# x"]])]

def exampleEntries : List (Str × J) :=
  [(cs! "bldheight", .num (.flt 10)), (cs! "albroof", .null),
   (cs! "bld", .list [.list [.str (cs! "largeoffice"), .str (cs! "pst80"), .num (.flt (2/5))],
                     .list [.str (cs! "hospital"), .str (cs! "new"), .num (.flt (3/5))]]),
   (cs! "schtraffic", .list [.list [.num (.flt (1/5)), .num (.flt (2/5))], .list [.num (.flt 1)],
                            .list [.num (.flt (1/2)), .str (cs! "null"), .str (cs! "# Sunday")]])]

/-- Non-vacuity of T3: two entries, a schedule and a `bld` block, written in another order, with a comment and
    a blank row between the blocks, upper-case keys and padded cells, form a layout of the entry list. -/
def exampleLayout : Layout exampleEntries where
  pieces := examplePieces
  wf := by
    intro p hp
    simp only [examplePieces, List.mem_cons, List.not_mem_nil, or_false] at hp
    rcases hp with rfl | rfl | rfl | rfl | rfl | rfl
    · exact Or.inr ⟨_, _, rfl, by decide⟩
    · show (Entry.sem _).isSome = true; decide +kernel
    · exact Or.inl rfl
    · show (Entry.sem _).isSome = true; decide +kernel
    · show (Entry.sem _).isSome = true; decide +kernel
    · show (Entry.sem _).isSome = true; decide +kernel
  perm := by decide +kernel

example : (exampleEntries.map Prod.fst).Nodup := by decide

end Uwg.C06
