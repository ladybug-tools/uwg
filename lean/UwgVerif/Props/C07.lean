/-
C07 — The whole building stock is simulated, or the model refuses.
Property theorems about `Uwg.Bem.computeBEM` / `customize` / `generateBEM` (model of
`UWG._compute_BEM`, `_customize_reference_data`, `generate`).
Fractions and attributes range over any field `K` with decidable equality (ℚ in the tie, ℝ too).
The docstrings label the parts of the property: T1 the simulated stock is exactly the listed one, T2
refuse or all, T3 custom archetypes, T4 a split stock row, T6 what the logic before the repair did.
(There is no T5: a split stock through the canyon model is not stated, `split_stock_generate` gives
the equality of the whole selection.)
-/
import UwgVerif.Lemmas.Bem
import Mathlib.Algebra.BigOperators.Group.List.Basic
import Mathlib.Algebra.Order.Field.Rat

namespace Uwg.C07
open Uwg.Bem
variable {K : Type} [Field K] [DecidableEq K]

/-- What the stock dictionary holds: one pair per distinct (type, era) of the stock list (era text
    compared case-insensitively through `eraIdx?`), carrying the **sum** of the fractions of all
    rows with that key. This is the "aggregated stock list" of `bem_exact`. -/
theorem aggregate_spec (rows : List (Key × K)) :
    ((aggregate rows).map Prod.fst).Nodup ∧
    ∀ k f, (k, f) ∈ aggregate rows ↔ k ∈ rows.map Prod.fst ∧ f = fracOf k rows :=
  ⟨aggregate_nodup rows, fun _ _ => mem_aggregate⟩

/-- **T1.** If `_compute_BEM` succeeds on a library whose zone column is slot-consistent and has
    no two cells with the same (type, era), then
    (i) the list of (type, era, fraction) of the simulated archetypes is a permutation of the
        aggregated stock list (`aggregate_spec`): one simulated archetype per distinct (type, era),
        with the summed fraction — none missing, none extra, none twice;
    (ii) every simulated archetype is the library cell stored at its own era slot in the column of
        the *proxy* zone (`z` is `REF_ZONETYPE.index` of `proxyZone zone`), with the overrides
        applied (`applyOv` keeps type, era and object identity);
    (iii) the simulated fractions sum to exactly the sum of the stock list. -/
theorem bem_exact (P : Params K) (lib : Lib K) (z : Nat) (rows : List (Key × K))
    (es : List (Entry K)) (tot : Totals K)
    (hz : zoneIdx? P.zone = some z) (hk : keyed P.bld = .ok rows)
    (hslot : SlotOK z lib) (huniq : KeysUnique z lib)
    (h : computeBEM P lib = .ok (es, tot)) :
    (es.map (fun e => (e.arch.key, e.frac))).Perm (aggregate rows) ∧
    (∀ e ∈ es, ∃ row ∈ lib, ∃ a, e.arch.era < 3 ∧ cell row e.arch.era z = .ok (some a) ∧
        a.bldtype = e.arch.bldtype ∧ e.arch = applyOv P a) ∧
    (es.map (·.frac)).sum = (P.bld.map (·.frac)).sum := by
  obtain ⟨rfl, -, hall⟩ := computeBEM_ok_slot hz hk hslot h
  have hperm := selection_perm P huniq hall
  refine ⟨hperm, fun e he => ?_, ?_⟩
  · obtain ⟨a, ha, -, rfl⟩ := mem_selection.1 he
    obtain ⟨row, hrow, j, hj, hc⟩ := mem_colCells.1 ha
    have hera : a.era = j := hslot row hrow j hj a hc
    exact ⟨row, hrow, a, hera ▸ hj, hera ▸ cellD_eq_some_iff.1 hc, rfl, rfl⟩
  · have := (hperm.map Prod.snd).sum_eq
    rw [List.map_map, aggregate_sum, keyed_fracs hk] at this
    exact this

/-- The simulated fractions sum to the stock total, which the `bld` setter keeps within 1/100 of
    one ("the simulated fractions sum to one"). -/
theorem bem_fractions_sum [LinearOrder K] (P : Params K) (lib : Lib K) (z : Nat)
    (rows : List (Key × K)) (es : List (Entry K)) (tot : Totals K)
    (hacc : bldSetter P.bld = .ok P.bld)
    (hz : zoneIdx? P.zone = some z) (hk : keyed P.bld = .ok rows)
    (hslot : SlotOK z lib) (huniq : KeysUnique z lib)
    (h : computeBEM P lib = .ok (es, tot)) :
    absK ((es.map (·.frac)).sum - 1) < 1 / 100 := by
  rw [(bem_exact P lib z rows es tot hz hk hslot huniq h).2.2]
  exact (bldSetter_ok hacc).2.2

/-- **T2.** Refuse or all: if some stock row has no archetype at the zone column — no cell whose
    own (type, era) equals the row's — `_compute_BEM` does not return a result at all (in
    particular never a shorter list). No well-formedness of the library is needed. -/
theorem refuse_or_all (P : Params K) (lib : Lib K) (z : Nat) (hz : zoneIdx? P.zone = some z)
    (r : Row K) (hr : r ∈ P.bld) (e : Nat) (he : eraIdx? r.era = some e)
    (hno : ∀ row ∈ lib, ∀ j, j < 3 → ∀ a, cell row j z = .ok (some a) →
      ¬ (a.bldtype = r.bldtype ∧ a.era = e)) :
    ∀ out, computeBEM P lib ≠ .ok out := by
  rintro ⟨es, tot⟩ h
  obtain ⟨-, z', rows, hs, -, hz', hk, hsc, hu, -⟩ := computeBEM_ok h
  cases hz.symm.trans hz'
  obtain ⟨x, hx, ek⟩ := List.mem_map.1 (hu _ ((keyed_keys hk _).2 ⟨r, hr, e, he, rfl⟩))
  obtain ⟨row, hrow, j, hj, a, hc, hkey, _, _⟩ := (scan_ok hsc).2 x hx
  exact hno row hrow j hj a (cellD_eq_some_iff.1 hc) (Prod.mk.inj (hkey.symm.trans ek))

/-- **T2, exact form.** On a well-shaped, slot-consistent library, with a non-zero floor height
    and an accepted stock list, a row without archetype makes `_compute_BEM` raise exactly the
    refusal (`Exception`), not some other error. -/
theorem refuse_or_all_wf (P : Params K) (lib : Lib K) (z : Nat) (rows : List (Key × K))
    (hfl : hFloor P ≠ 0) (hz : zoneIdx? P.zone = some z) (hk : keyed P.bld = .ok rows)
    (hshape : ShapeOK z lib) (hslot : SlotOK z lib)
    (r : Row K) (hr : r ∈ P.bld) (e : Nat) (he : eraIdx? r.era = some e)
    (hno : ∀ a ∈ colCells z lib, a.key ≠ (r.bldtype, e)) :
    computeBEM P lib = .error .refuse := by
  rw [computeBEM_wf hfl hz hk hshape hslot, if_neg]
  intro hall
  obtain ⟨a, ha, hak⟩ := List.mem_map.1 (hall _ ((keyed_keys hk _).2 ⟨r, hr, e, he, rfl⟩))
  exact hno a ha hak

/-- **Progress** (the refusal is not the only way to satisfy T1/T2): on a well-shaped,
    slot-consistent library, with non-zero floor height and an accepted stock list every row of
    which has an archetype at the zone column, `_compute_BEM` succeeds. -/
theorem bem_progress (P : Params K) (lib : Lib K) (z : Nat) (rows : List (Key × K))
    (hfl : hFloor P ≠ 0) (hz : zoneIdx? P.zone = some z) (hk : keyed P.bld = .ok rows)
    (hshape : ShapeOK z lib) (hslot : SlotOK z lib)
    (hall : ∀ r ∈ P.bld, ∀ e, eraIdx? r.era = some e →
      ∃ a ∈ colCells z lib, a.key = (r.bldtype, e)) :
    ∃ out, computeBEM P lib = .ok out := by
  rw [computeBEM_wf hfl hz hk hshape hslot, if_pos]
  · exact ⟨_, rfl⟩
  · intro k hkd
    obtain ⟨r, hr, e, he, rfl⟩ := (keyed_keys hk k).1 hkd
    obtain ⟨a, ha, hak⟩ := hall r hr e he
    exact List.mem_map.2 ⟨a, ha, hak⟩

/-- **T4.** Writing one stock row as several rows with the same type, the same era (in any
    letter case) and the same total fraction changes nothing: `_compute_BEM` returns the identical
    result — the same simulated archetypes with the same fractions and floor areas, the same three
    stock averages — or the identical error. (With aggregation this is an exact equality whenever
    the fractions add exactly, as they do in a field.) -/
theorem split_stock_totals (P : Params K) (pre post rs : List (Row K)) (r : Row K) (lib : Lib K)
    (hne : rs ≠ [])
    (hkey : ∀ r' ∈ rs, r'.bldtype = r.bldtype ∧ eraIdx? r'.era = eraIdx? r.era)
    (hsum : (rs.map (·.frac)).sum = r.frac) :
    computeBEM { P with bld := pre ++ rs ++ post } lib =
      computeBEM { P with bld := pre ++ [r] ++ post } lib := by
  obtain ⟨r0, hr0⟩ := List.exists_mem_of_ne_nil rs hne
  have hk1 : ∀ p ∈ rs.map keyOf, p.1 = (keyOf r).1 := by
    simp only [List.forall_mem_map, keyOf]
    intro r' hr'
    rw [(hkey r' hr').1, (hkey r' hr').2]
  have hs1 : ((rs.map keyOf).map Prod.snd).sum = r.frac := by
    rw [List.map_map]
    exact hsum
  refine computeBEM_congr_stock P lib ?_ ?_ ?_
  · simp only [List.forall_mem_append, List.forall_mem_singleton]
    have : (∀ r' ∈ rs, (eraIdx? r'.era).isSome) ↔ (eraIdx? r.era).isSome := by
      constructor
      · intro h
        rw [← (hkey r0 hr0).2]
        exact h r0 hr0
      · intro h r' hr'
        rw [(hkey r' hr').2]
        exact h
    rw [this]
  · intro k
    simp only [List.map_append, List.mem_append, List.map_cons, List.map_nil, List.mem_singleton]
    have : k ∈ (rs.map keyOf).map Prod.fst ↔ k = (keyOf r).1 := by
      rw [List.mem_map]
      exact ⟨fun ⟨p, hp, e⟩ => e ▸ hk1 p hp,
        fun e => ⟨keyOf r0, List.mem_map_of_mem hr0, e ▸ hk1 _ (List.mem_map_of_mem hr0)⟩⟩
    rw [this]
  · intro k
    simp only [List.map_append, fracOf_append, fracOf_same_key hk1, hs1, List.map_cons,
      List.map_nil, fracOf_cons, fracOf_nil, add_zero]
    rfl

/-- T4 through `generate` (customisation does not read the stock list). -/
theorem split_stock_generate (P : Params K) (cs : List (Arch K)) (pre post rs : List (Row K))
    (r : Row K) (lib : Lib K) (hne : rs ≠ [])
    (hkey : ∀ r' ∈ rs, r'.bldtype = r.bldtype ∧ eraIdx? r'.era = eraIdx? r.era)
    (hsum : (rs.map (·.frac)).sum = r.frac) :
    generateBEM { P with bld := pre ++ rs ++ post } cs lib =
      generateBEM { P with bld := pre ++ [r] ++ post } cs lib := by
  unfold generateBEM
  cases cs with
  | nil => exact split_stock_totals P pre post rs r lib hne hkey hsum
  | cons c cs =>
    simp only
    cases customize P.zone (c :: cs) lib with
    | error e => rfl
    | ok lib' => exact split_stock_totals P pre post rs r lib' hne hkey hsum

/-! ### Tables: zones, era texts, the text key -/

/-- Every one of the 18 zone texts the `zone` setter accepts has a library column
    (`REF_ZONETYPE.index` cannot raise). -/
theorem zone_index_total : ∀ z ∈ zoneSet, ∃ i, zoneIdx? z = some i ∧ i < 16 := by decide +kernel

/-- Zones 1B and 5C use the columns of 1A and 5B; every other accepted zone uses its own. -/
theorem proxy_zone_table :
    zoneIdx? "1B" = zoneIdx? "1A" ∧ zoneIdx? "5C" = zoneIdx? "5B" ∧
    (∀ z ∈ zoneSet, z ≠ "1B" → z ≠ "5C" → refZoneType[(zoneIdx? z).getD 99]? = some z) := by
  decide +kernel

/-- A stock list the `bld` setter accepted never makes `REF_BUILTERA.index` raise. -/
theorem accepted_no_value_error [LinearOrder K] (bld : List (Row K))
    (hacc : bldSetter bld = .ok bld) : ∃ rows, keyed bld = .ok rows :=
  ⟨_, keyed_eq_ok.2 ⟨fun r hr => ((bldSetter_ok hacc).2.1 r hr).1, rfl⟩⟩

/-- The era text is compared without regard to letter case (examples; `eraIdx?` lower-cases). -/
theorem era_any_case :
    eraIdx? "PST80" = some 1 ∧ eraIdx? "pst80" = some 1 ∧ eraIdx? "Pre80" = some 0 ∧
    eraIdx? "NeW" = some 2 ∧ eraIdx? "pst8O" = none := by decide +kernel

/-- The dictionary key of the Python code is the concatenated text `bldtype + builtera`; since the
    era text is one of 'pre80', 'pst80', 'new', the text determines (type, era) — which is what the
    model keys by. -/
theorem key_text_injective (t1 t2 : String) (e1 e2 : Nat) (h1 : e1 < 3) (h2 : e2 < 3)
    (h : t1 ++ refBuiltEra[e1]! = t2 ++ refBuiltEra[e2]!) : t1 = t2 ∧ e1 = e2 := by
  -- no era word is a suffix of another one
  have free : ∀ i, i < 3 → ∀ j, j < 3 →
      (refBuiltEra[i]!).toList <:+ (refBuiltEra[j]!).toList → i = j := by decide +kernel
  have h' := congrArg String.toList h
  rw [String.toList_append, String.toList_append] at h'
  have he : e1 = e2 := by
    rcases List.suffix_or_suffix_of_suffix (List.suffix_append t1.toList _)
      (h' ▸ List.suffix_append t2.toList _) with hs | hs
    · exact free e1 h1 e2 h2 hs
    · exact (free e2 h2 e1 h1 hs).symm
  subst he
  exact ⟨String.toList_inj.1 (List.append_cancel_right h'), rfl⟩

/-! ### T3 — custom archetypes replace or extend the reference set -/

/-- **T3a.** A custom archetype whose type is a reference type is written into that type's row, at
    its own era slot and the (proxy) zone column; the library keeps its length and every other
    cell, and the row dictionary is unchanged. -/
theorem custom_replaces (zi : Nat) (lib lib' : Lib K) (m m' : RowMap) (c : Arch K) (ti : Nat)
    (hidx : refBldType.idxOf? c.bldtype = some ti) (h : customize1 zi lib m c = .ok (lib', m')) :
    m' = m ∧ lib'.length = lib.length ∧ cellAt lib' ti c.era zi = some c ∧
    ∀ i j z, ¬ (i = ti ∧ j = c.era ∧ z = zi) → cellAt lib' i j z = cellAt lib i j z :=
  customize1_in_place (by simp [targetRow, hidx]) (by simp [appends, hidx]) h

/-- **T3b.** The first custom archetype of a new type name gets a new last row that is empty except
    for the archetype itself at its era slot and the zone column; all existing rows are unchanged
    and the dictionary remembers the row. -/
theorem custom_extends (zi : Nat) (lib lib' : Lib K) (m m' : RowMap) (c : Arch K)
    (hidx : refBldType.idxOf? c.bldtype = none) (hfirst : lookupRow c.bldtype m = none)
    (h : customize1 zi lib m c = .ok (lib', m')) :
    m' = m ++ [(c.bldtype, lib.length)] ∧
    lib'.length = lib.length + 1 ∧ cellAt lib' lib.length c.era zi = some c ∧
    (∀ j z, ¬ (j = c.era ∧ z = zi) → cellAt lib' lib.length j z = none) ∧
    ∀ i j z, i ≠ lib.length → cellAt lib' i j z = cellAt lib i j z := by
  obtain ⟨_, hlen, hm, _, hcell⟩ := customize1_ok h
  have htr : targetRow lib m c = lib.length := by simp [targetRow, hidx, hfirst]
  have happ : appends m c = true := by simp [appends, hidx, hfirst]
  rw [happ] at hlen hm
  refine ⟨hm, hlen, by rw [hcell, htr]; simp, fun j z hne => ?_, fun i j z hne => ?_⟩
  · rw [hcell, htr, if_neg (fun e => hne ⟨e.2.1, e.2.2⟩)]
    unfold cellAt; rw [List.getElem?_eq_none (Nat.le_refl _)]
  · rw [hcell, htr, if_neg (fun e => hne e.1)]

/-- **T3c.** A later custom archetype of an already added new type is written into that type's
    row (no second row): it fills another era slot or replaces the earlier custom of the same era. -/
theorem custom_extends_again (zi : Nat) (lib lib' : Lib K) (m m' : RowMap) (c : Arch K) (ti : Nat)
    (hidx : refBldType.idxOf? c.bldtype = none) (hrow : lookupRow c.bldtype m = some ti)
    (h : customize1 zi lib m c = .ok (lib', m')) :
    m' = m ∧ lib'.length = lib.length ∧ cellAt lib' ti c.era zi = some c ∧
    ∀ i j z, ¬ (i = ti ∧ j = c.era ∧ z = zi) → cellAt lib' i j z = cellAt lib i j z :=
  customize1_in_place (by simp [targetRow, hidx, hrow]) (by simp [appends, hidx, hrow]) h

/-- **Model invariant.** `_customize_reference_data` derives the slot from the archetype's own
    `builtera`, so it cannot produce a cell whose era attribute disagrees with its slot: slot
    consistency of the zone column is preserved (and holds for the shipped library, checked in the
    tie). This is the hypothesis `SlotOK` of `bem_exact`. -/
theorem customize_keeps_slots (zone : String) (zi : Nat) (cs : List (Arch K)) (lib lib' : Lib K)
    (hz : zoneIdx? zone = some zi) (hslot : SlotOK zi lib)
    (h : customize zone cs lib = .ok lib') : SlotOK zi lib' := by
  obtain ⟨zi', m', hz', hl⟩ := customize_ok h
  cases hz.symm.trans hz'
  rw [slotOK_iff] at hslot ⊢
  intro i j a hj hc
  rcases customizeLoop_cells hl hc with h0 | ⟨-, h0⟩
  · exact hslot i j a hj h0
  · exact h0

/-- **T3.** End to end through `generate` on a library shaped like the shipped one (16 rows, row
    `i` holding type `REF_BLDTYPE[i]`, slots consistent), with **any** list of custom archetypes
    (repeated types and eras allowed): if the selection succeeds then
    * the simulated archetypes are, as in T1, a permutation of the aggregated stock list and their
      fractions sum to the stock total;
    * a simulated (type, era) for which custom archetypes exist is simulated by the **last** such
      custom archetype (it *replaces* the reference archetype, or *extends* the set with a new type);
    * every other simulated (type, era) is the untouched reference cell of the zone column. -/
theorem custom_replaces_extends (P : Params K) (cs : List (Arch K)) (lib : Lib K) (zi : Nat)
    (rows : List (Key × K)) (es : List (Entry K)) (tot : Totals K)
    (hz : zoneIdx? P.zone = some zi) (hk : keyed P.bld = .ok rows)
    (hlib : RefLib zi lib)
    (h : generateBEM P cs lib = .ok (es, tot)) :
    (es.map (fun e => (e.arch.key, e.frac))).Perm (aggregate rows) ∧
    (es.map (·.frac)).sum = (P.bld.map (·.frac)).sum ∧
    ∀ e ∈ es,
      match lastWithKey e.arch.key cs with
      | some c => e.arch = applyOv P c
      | none => ∃ i a, cellAt lib i e.arch.era zi = some a ∧ a.key = e.arch.key ∧
          e.arch = applyOv P a := by
  obtain ⟨zi', lib', m', hz', hl, hc⟩ := generateBEM_ok h
  cases hz.symm.trans hz'
  have inv := hlib.refInv.loop hl
  obtain ⟨hperm, -, hsum⟩ := bem_exact P lib' zi rows es tot hz hk inv.slotOK inv.keysUnique hc
  refine ⟨hperm, hsum, fun e he => ?_⟩
  -- `e` is the cell `a` of the customised column with the overrides applied
  obtain ⟨rfl, -, -⟩ := computeBEM_ok_slot hz hk inv.slotOK hc
  obtain ⟨a, ha, -, rfl⟩ := mem_selection.1 he
  obtain ⟨i, j, hj, hca⟩ := mem_colCells_index.1 ha
  change match lastWithKey a.key cs with
    | some c => applyOv P a = applyOv P c
    | none => ∃ i a', cellAt lib i a.era zi = some a' ∧ a'.key = a.key ∧ applyOv P a = applyOv P a'
  rcases hlib.refInv.customized_cell hl hj hca with hlk | ⟨hlk, h0⟩
  · rw [hlk]
  · rw [hlk]
    exact ⟨i, a, inv.slot i j a hj hca ▸ h0, rfl, rfl⟩

/-! ### Concrete witnesses (ℚ): the hypotheses are satisfiable, the old logic misbehaved,
the repaired logic does not -/

section Witnesses

def mkA (t : String) (e pid : Nat) : Arch ℚ := ⟨t, e, pid, 1 / 4, 1 / 2, 1 / 8, 3 / 8, 0, 3⟩

/-- A library shaped like the shipped one, cut down to two zone columns (1A, 2A): row `i` holds
    `REF_BLDTYPE[i]`, every cell present, object identity `6 i + 2 j + z`. -/
def exLib : Lib ℚ :=
  (List.range 16).map fun i => (List.range 3).map fun j => (List.range 2).map fun z =>
    some (mkA refBldType[i]! j (6 * i + 2 * j + z))

def exP (zone : String) (bld : List (Row ℚ)) : Params ℚ :=
  ⟨zone, bld, none, none, none, none, none, none, 1000, 1 / 2, 10⟩

/-- (object identity, fraction) of the simulated archetypes; `none` on an exception. -/
def view (r : Except Err (List (Entry ℚ) × Totals ℚ)) : Option (List (Nat × ℚ)) :=
  match r with
  | .ok (es, _) => some (es.map (fun e => (e.arch.pid, e.frac)))
  | .error _ => none

def errOf (r : Except Err (List (Entry ℚ) × Totals ℚ)) : Option Err :=
  match r with
  | .ok _ => none
  | .error e => some e

def customA : Arch ℚ := mkA "customa" 2 1000

def asisWithCustoms (P : Params ℚ) (cs : List (Arch ℚ)) (lib : Lib ℚ) :
    Except Err (List (Entry ℚ) × Totals ℚ) :=
  match customizeAsis P.zone cs lib with
  | .error e => .error e
  | .ok lib' => computeBEMAsis P lib'

/-- Non-vacuity: the well-formedness hypotheses of T1–T3 hold for `exLib` (decidable checks; key
    uniqueness follows from the shipped shape, as in T3), and a duplicated, mixed-case stock list is
    simulated. -/
example : SlotOK 0 exLib ∧ KeysUnique 0 exLib ∧ ShapeOK 0 exLib ∧ RefLib 0 exLib ∧
    SlotOK 1 exLib ∧ KeysUnique 1 exLib ∧ RefLib 1 exLib ∧
    view (computeBEM (exP "1B" [⟨"largeoffice", "pst80", 1 / 4⟩, ⟨"hospital", "New", 1 / 2⟩,
      ⟨"largeoffice", "PST80", 1 / 4⟩]) exLib) = some [(10, 1 / 2), (20, 1 / 2)] := by
  have ref0 : RefLib 0 exLib := refLib_of_check (by decide +kernel)
  have ref1 : RefLib 1 exLib := refLib_of_check (by decide +kernel)
  exact ⟨slotOK_of_check (by decide +kernel), ref0.refInv.keysUnique,
    shapeOK_of_check (by decide +kernel), ref0, slotOK_of_check (by decide +kernel),
    ref1.refInv.keysUnique, ref1, by decide +kernel⟩

/-- **T6a.** Before the repair a type written in another letter case was silently dropped: 60 % of
    the stock simulated as if it were everything. -/
theorem asis_type_case_dropped :
    view (computeBEMAsis (exP "1A" [⟨"LargeOffice", "pst80", 2 / 5⟩,
      ⟨"midriseapartment", "pst80", 3 / 5⟩]) exLib) = some [(32, 3 / 5)] := by decide +kernel

/-- **T6b.** Before the repair duplicate rows collapsed, the last one winning. -/
theorem asis_duplicates_collapse :
    view (computeBEMAsis (exP "1A" [⟨"largeoffice", "pst80", 1 / 4⟩,
      ⟨"largeoffice", "pst80", 3 / 4⟩]) exLib) = some [(20, 3 / 4)] := by decide +kernel

/-- **T6c.** Before the repair an unknown type gave an empty building stock without any error. -/
theorem asis_unknown_type_empty :
    view (computeBEMAsis (exP "2A" [⟨"skyscraper", "new", 1⟩]) exLib) = some [] := by
  decide +kernel

/-- **T6d.** Before the repair a custom archetype with a new type name was dropped in every zone
    but 1A (the key was read from zone column 0, which is empty in the appended row). -/
theorem asis_custom_dropped_off_1A :
    view (asisWithCustoms (exP "2A" [⟨"customa", "new", 1⟩]) [customA] exLib) = some [] ∧
    view (asisWithCustoms (exP "1A" [⟨"customa", "new", 1⟩]) [customA] exLib) =
      some [(1000, 1)] := by decide +kernel

/-- The same four inputs on the repaired logic: refusal, summed duplicate, refusal, custom kept. -/
theorem fixed_witnesses :
    errOf (computeBEM (exP "1A" [⟨"LargeOffice", "pst80", 2 / 5⟩,
      ⟨"midriseapartment", "pst80", 3 / 5⟩]) exLib) = some .refuse ∧
    view (computeBEM (exP "1A" [⟨"largeoffice", "pst80", 1 / 4⟩,
      ⟨"largeoffice", "pst80", 3 / 4⟩]) exLib) = some [(20, 1)] ∧
    errOf (computeBEM (exP "2A" [⟨"skyscraper", "new", 1⟩]) exLib) = some .refuse ∧
    view (generateBEM (exP "2A" [⟨"customa", "new", 1⟩]) [customA] exLib) = some [(1000, 1)] := by
  decide +kernel

/-- **T6e.** Before the repair of `_customize_reference_data` two custom archetypes with the same
    *new* type and era got a row each and were **both** simulated at the full fraction (fractions
    summing to 2); `generateBEM` writes them to one row and the last one wins (T3,
    `custom_extends_again`). -/
theorem asis_dup_custom_double_counts :
    view (match customizeAsis "1A" [customA, mkA "customa" 2 1001] exLib with
      | .error e => .error e
      | .ok lib' => computeBEM (exP "1A" [⟨"customa", "new", 1⟩]) lib') =
      some [(1000, 1), (1001, 1)] ∧
    view (generateBEM (exP "1A" [⟨"customa", "new", 1⟩]) [customA, mkA "customa" 2 1001] exLib) =
      some [(1001, 1)] ∧
    view (generateBEM (exP "2A" [⟨"customa", "new", 1 / 2⟩, ⟨"customa", "pre80", 1 / 2⟩])
      [customA, mkA "customa" 0 1001, mkA "customa" 2 1002] exLib) =
      some [(1001, 1 / 2), (1002, 1 / 2)] := by decide +kernel

end Witnesses

end Uwg.C07
