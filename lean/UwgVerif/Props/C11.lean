/-
C11 — One-dimensional conduction conserves energy exactly.
Generic over every linearly ordered field `K` (so the theorems hold over ℚ, where the model is
executed against the real code, and over ℝ).
-/
import UwgVerif.Lemmas.Conduction

namespace Uwg.C11
variable {K : Type} [Field K] [LinearOrder K] [IsStrictOrderedRing K]

/-- T1–T3. For physically admissible layers (positive thickness, conductivity, heat capacity),
    a positive timestep and at least two layers, `Conduction` returns a vector of the right
    length that solves *every* row equation of the system it assembled (no pivot vanishes). -/
theorem conduction_solves (dt flx1 : K) (bc : BC K) (ls : List (Layer K))
    (hdt : 0 < dt) (hpos : PosLayers ls) (hlen : 2 ≤ ls.length) :
    ∃ xs, conduction dt flx1 bc ls = some xs ∧ xs.length = ls.length ∧
      Sat 0 (condRows dt bc 0 0 flx1 ls) xs :=
  have h := conduction_returns dt flx1 bc hlen
  ⟨_, h, by rw [solve_length, condRows_length], (conduction_eq_some hdt hpos hlen ..).mp h⟩

/-- T4. Flux boundary: the heat stored in the element changes by exactly
    (outer flux + inner flux) × timestep. -/
theorem energy_flux_bc (dt flx1 flx2 : K) (ls : List (Layer K)) (xs : List K)
    (hdt : 0 < dt) (hpos : PosLayers ls) (hlen : 2 ≤ ls.length)
    (h : conduction dt flx1 (.flux flx2) ls = some xs) :
    storedChange ls xs = dt * (flx1 + flx2) := by
  have hsat := (conduction_eq_some hdt hpos hlen ..).mp h
  match ls, hlen with
  | l :: rest, _ =>
    rw [energy_flux_aux hdt.ne' hsat, cnFlux_zero, add_zero]

/-- T5. Deep-temperature boundary: the last layer takes the deep temperature, and the heat
    stored in the other layers changes by (outer flux − conductive flux into the deep layer) × dt. -/
theorem energy_deep_bc (dt flx1 temp2 : K) (ls : List (Layer K)) (xs : List K)
    (hdt : 0 < dt) (hpos : PosLayers ls) (hlen : 2 ≤ ls.length)
    (h : conduction dt flx1 (.deep temp2) ls = some xs) :
    xs.getLast? = some temp2 ∧
    storedChange ls.dropLast xs = dt * (flx1 - deepFlux ls xs) := by
  have hsat := (conduction_eq_some hdt hpos hlen ..).mp h
  match ls, hlen with
  | l :: l' :: rest, _ =>
    obtain ⟨hE, hL⟩ := energy_deep_aux hdt.ne' hsat
    rw [cnFlux_zero, add_zero] at hE
    exact ⟨hL, hE⟩

/-- A profile carrying the same conductive flux `q` through every interface. -/
def Steady (q : K) : List (Layer K) → Prop
  | l :: l' :: rest => tcp l l' * (l.t - l'.t) = q ∧ Steady q (l' :: rest)
  | _ => True

/-- The inner boundary takes from the last layer what a steady flux `q` brings. -/
private def Drains (q : K) (last : Layer K) : BC K → Prop
  | .flux flx2 => flx2 = -q
  | .deep temp2 => temp2 = last.t

/-- In a steady profile every layer's balance is `0 = q − q`, so the old temperatures solve the
    system. -/
private theorem steady_sat {dt : K} (hdt : dt ≠ 0) {q : K} {bc : BC K} {l : Layer K}
    {rest : List (Layer K)} {gin tprev extra : K} (hs : Steady q (l :: rest))
    (hq : gin * (tprev - l.t) + extra = q) (hbc : Drains q ((l :: rest).getLast (by simp)) bc) :
    Sat tprev (condRows dt bc gin tprev extra (l :: rest)) ((l :: rest).map (·.t)) := by
  induction rest generalizing l gin tprev extra with
  | nil =>
    cases bc with
    | flux flx2 =>
      have hf : flx2 = -q := hbc
      refine ⟨(condRow_sat_iff hdt).mpr ?_, trivial⟩
      simp only [cnFlux]
      linear_combination (-dt) * hq - dt * hf
    | deep temp2 =>
      have hT : temp2 = l.t := hbc
      refine ⟨?_, trivial⟩
      linear_combination (-1 : K) * hT
  | cons l' rest ih =>
    refine ⟨(condRow_sat_iff hdt).mpr ?_, ih hs.2 (by linear_combination hs.1) hbc⟩
    simp only [cnFlux, List.map_cons, List.headD_cons]
    linear_combination (-dt) * hq + dt * hs.1

/-- T7 (flux boundary). A steady profile carrying flux `q` in at the outer face and out at the
    inner face is a fixed point. -/
theorem steady_fixed_flux (dt q : K) (ls : List (Layer K))
    (hdt : 0 < dt) (hpos : PosLayers ls) (hlen : 2 ≤ ls.length) (hs : Steady q ls) :
    conduction dt q (.flux (-q)) ls = some (ls.map (·.t)) := by
  rw [conduction_eq_some hdt hpos hlen]
  match ls, hlen with
  | l :: rest, _ => exact steady_sat hdt.ne' hs (by ring) rfl

/-- T7 (deep boundary). A steady profile whose last layer is at the deep temperature is a fixed point. -/
theorem steady_fixed_deep (dt q : K) (l l' : Layer K) (rest : List (Layer K))
    (hdt : 0 < dt) (hpos : PosLayers (l :: l' :: rest)) (hs : Steady q (l :: l' :: rest)) :
    conduction dt q (.deep ((l :: l' :: rest).getLast (by simp)).t) (l :: l' :: rest) =
      some ((l :: l' :: rest).map (·.t)) := by
  rw [conduction_eq_some hdt hpos (by simp)]
  exact steady_sat hdt.ne' hs (by ring) rfl

def Uniform (T : K) (ls : List (Layer K)) : Prop := ∀ l ∈ ls, l.t = T

theorem uniform_steady {T : K} {ls : List (Layer K)} (h : Uniform T ls) : Steady 0 ls := by
  fun_induction Steady 0 ls with
  | case1 l l' rest ih =>
    refine ⟨?_, ih fun q hq => h q (List.mem_cons_of_mem _ hq)⟩
    rw [h l (by simp), h l' (by simp), sub_self, mul_zero]
  | case2 => trivial

/-- T6. A uniform element with no flux at either face is unchanged. -/
theorem uniform_fixed (dt T : K) (ls : List (Layer K))
    (hdt : 0 < dt) (hpos : PosLayers ls) (hlen : 2 ≤ ls.length) (hu : Uniform T ls) :
    conduction dt 0 (.flux 0) ls = some (ls.map (·.t)) := by
  have := steady_fixed_flux dt 0 ls hdt hpos hlen (uniform_steady hu)
  simpa using this

/-! ### Sequences of steps -/

def applyTemps (ls : List (Layer K)) (xs : List K) : List (Layer K) :=
  List.zipWith (fun l x => { l with t := x }) ls xs

/-- Heat content per unit area (relative to 0 K). -/
def energy : List (Layer K) → K
  | [] => 0
  | l :: ls => l.hcp * l.t + energy ls

structure FluxStep (K : Type) where
  dt : K
  flx1 : K
  flx2 : K

def run : List (Layer K) → List (FluxStep K) → Option (List (Layer K))
  | ls, [] => some ls
  | ls, s :: ss =>
    match conduction s.dt s.flx1 (.flux s.flx2) ls with
    | none => none
    | some xs => run (applyTemps ls xs) ss

def supplied : List (FluxStep K) → K
  | [] => 0
  | s :: ss => s.dt * (s.flx1 + s.flx2) + supplied ss

private theorem energy_applyTemps (ls : List (Layer K)) (xs : List K) (h : xs.length = ls.length) :
    energy (applyTemps ls xs) - energy ls = storedChange ls xs := by
  induction ls generalizing xs with
  | nil => cases xs <;> simp [applyTemps, energy, storedChange]
  | cons l ls ih =>
    cases xs with
    | nil => simp at h
    | cons x xs =>
      have := ih xs (by simpa using h)
      simp only [applyTemps, List.zipWith_cons_cons, energy, storedChange, Layer.hcp] at this ⊢
      linear_combination this

private theorem pos_applyTemps (ls : List (Layer K)) (xs : List K) (h : PosLayers ls) :
    PosLayers (applyTemps ls xs) := by
  intro l hl
  unfold applyTemps at hl
  obtain ⟨i, hi, rfl⟩ := List.mem_iff_getElem.mp hl
  simp only [List.getElem_zipWith]
  simp only [List.length_zipWith] at hi
  exact h _ (List.getElem_mem (by omega))

/-- T8. Over any sequence of steps with the flux boundary (each with its own positive timestep and fluxes; `run`
    has no step with a fixed deep temperature), the run completes and the heat content changes by exactly the heat
    supplied at the two faces. -/
theorem energy_sequence (ss : List (FluxStep K)) :
    ∀ (ls : List (Layer K)), PosLayers ls → 2 ≤ ls.length → (∀ s ∈ ss, 0 < s.dt) →
      ∃ ls', run ls ss = some ls' ∧ energy ls' - energy ls = supplied ss := by
  induction ss with
  | nil => intro ls _ _ _; exact ⟨ls, rfl, by simp [supplied]⟩
  | cons s ss ih =>
    intro ls hpos hlen hdt
    have hs := hdt s (by simp)
    obtain ⟨xs, hc, hl, _⟩ := conduction_solves s.dt s.flx1 (.flux s.flx2) ls hs hpos hlen
    have hE := energy_flux_bc s.dt s.flx1 s.flx2 ls xs hs hpos hlen hc
    obtain ⟨ls', hr, hE'⟩ := ih (applyTemps ls xs) (pos_applyTemps ls xs hpos)
      (by simpa [applyTemps, hl] using hlen) (fun q hq => hdt q (List.mem_cons_of_mem _ hq))
    refine ⟨ls', ?_, ?_⟩
    · simp only [run, hc]; exact hr
    · have := energy_applyTemps ls xs hl
      simp only [supplied]
      linear_combination hE' + this + hE

/-! ### Non-vacuity: a concrete admissible three-layer wall meets every hypothesis. -/

example : PosLayers ([⟨1/10, 1, 2, 290⟩, ⟨1/5, 2, 3, 300⟩, ⟨1/20, 1/2, 1, 310⟩] : List (Layer ℚ)) ∧
    2 ≤ ([⟨1/10, 1, 2, 290⟩, ⟨1/5, 2, 3, 300⟩, ⟨1/20, 1/2, 1, 310⟩] : List (Layer ℚ)).length := by
  refine ⟨?_, by simp⟩
  intro l hl
  simp only [List.mem_cons, List.mem_nil_iff, or_false] at hl
  rcases hl with rfl | rfl | rfl <;> norm_num

end Uwg.C11
