/-
C08 — Optional building overrides take effect at every accepted value.
Property theorems about `Uwg.Bem.computeBEM` / `generateBEM` (model of `UWG._compute_BEM`, `generate`),
shared with C07. An override is an `Option K`: `none` = left unset, `some v` = set to `v`; the
theorems hold for **every** `v` (0 and 1 included) and every combination of the six options, i.e.
for all 2⁶ subsets at once. No well-formedness of the library is needed.
-/
import UwgVerif.Props.C07
import Mathlib.Tactic.NormNum

namespace Uwg.C08
open Uwg.Bem
variable {K : Type} [Field K] [DecidableEq K]

def IsCell (z : Nat) (lib : Lib K) (b : Arch K) : Prop :=
  ∃ row ∈ lib, ∃ j, cell row j z = .ok (some b)

/-- Every simulated building is a library archetype with the overrides applied (`applyOv` replaces
    exactly the six overridable attributes, each by its own option). -/
theorem entries_closed_form (P : Params K) (lib : Lib K) (es : List (Entry K)) (tot : Totals K)
    (h : computeBEM P lib = .ok (es, tot)) :
    ∃ z, zoneIdx? P.zone = some z ∧
      ∀ e ∈ es, ∃ b, IsCell z lib b ∧ e.arch = applyOv P b ∧ e.flArea = e.frac * area P := by
  obtain ⟨-, z, rows, hs, rfl, hz, -, hsc, -⟩ := computeBEM_ok h
  refine ⟨z, hz, fun e he => ?_⟩
  obtain ⟨x, hx, rfl⟩ := List.mem_map.1 he
  obtain ⟨row, hrow, _, _, a, _, _, _, hb⟩ := (scan_ok hsc).2 x hx
  exact ⟨x.src, ⟨row, hrow, a.era, cellD_eq_some_iff.1 hb⟩, rfl, rfl⟩

/-- **T1.** An override that is set — to any value, 0 and 1 included — is the value carried by
    every simulated building (all six overrides). -/
theorem override_applied (P : Params K) (lib : Lib K) (es : List (Entry K)) (tot : Totals K)
    (h : computeBEM P lib = .ok (es, tot)) :
    (∀ v, P.glzr = some v → ∀ e ∈ es, e.arch.glz = v) ∧
    (∀ v, P.shgc = some v → ∀ e ∈ es, e.arch.shgc = v) ∧
    (∀ v, P.albwall = some v → ∀ e ∈ es, e.arch.albWall = v) ∧
    (∀ v, P.albroof = some v → ∀ e ∈ es, e.arch.albRoof = v) ∧
    (∀ v, P.vegroof = some v → ∀ e ∈ es, e.arch.vegRoof = v) ∧
    (∀ v, P.flrh = some v → ∀ e ∈ es, e.arch.flrH = v) := by
  obtain ⟨z, _, hcf⟩ := entries_closed_form P lib es tot h
  refine ⟨?_, ?_, ?_, ?_, ?_, ?_⟩ <;>
  · intro v hv e he
    obtain ⟨b, _, hb, _⟩ := hcf e he
    rw [hb]; simp only [applyOv, hv, ov]

/-- **T2.** An override left unset leaves each simulated archetype's reference value untouched:
    the building is a library cell `b` of the zone column (same type, era and object identity)
    and carries `b`'s own value of that attribute. -/
theorem override_unset (P : Params K) (lib : Lib K) (es : List (Entry K)) (tot : Totals K)
    (h : computeBEM P lib = .ok (es, tot)) :
    ∃ z, zoneIdx? P.zone = some z ∧ ∀ e ∈ es, ∃ b, IsCell z lib b ∧
      e.arch.bldtype = b.bldtype ∧ e.arch.era = b.era ∧ e.arch.pid = b.pid ∧
      (P.glzr = none → e.arch.glz = b.glz) ∧
      (P.shgc = none → e.arch.shgc = b.shgc) ∧
      (P.albwall = none → e.arch.albWall = b.albWall) ∧
      (P.albroof = none → e.arch.albRoof = b.albRoof) ∧
      (P.vegroof = none → e.arch.vegRoof = b.vegRoof) ∧
      (P.flrh = none → e.arch.flrH = b.flrH) := by
  obtain ⟨z, hz, hcf⟩ := entries_closed_form P lib es tot h
  refine ⟨z, hz, fun e he => ?_⟩
  obtain ⟨b, hcell, hb, _⟩ := hcf e he
  refine ⟨b, hcell, by rw [hb]; rfl, by rw [hb]; rfl, by rw [hb]; rfl, ?_, ?_, ?_, ?_, ?_, ?_⟩ <;>
  · intro hn; rw [hb]; simp only [applyOv, hn, ov]

/-- **T3.** The stock averages handed to the canyon model are `Σ frac · value` over the simulated
    buildings, with the values those buildings carry (so with every set override), and each
    building's floor area is `frac · L² · density · height / h_floor` where `h_floor` is the floor
    height override when set and 3.05 m otherwise. -/
theorem totals_formula (P : Params K) (lib : Lib K) (es : List (Entry K)) (tot : Totals K)
    (h : computeBEM P lib = .ok (es, tot)) :
    tot.rGlaze = (es.map (fun e => e.frac * e.arch.glz)).sum ∧
    tot.shgc = (es.map (fun e => e.frac * e.arch.shgc)).sum ∧
    tot.albWall = (es.map (fun e => e.frac * e.arch.albWall)).sum ∧
    (∀ e ∈ es, e.flArea =
      e.frac * (P.charlength ^ 2 * P.blddensity * P.bldheight / (P.flrh.getD (61 / 20)))) := by
  obtain ⟨rfl, -⟩ := computeBEM_ok h
  obtain ⟨_, _, hcf⟩ := entries_closed_form P lib es _ h
  rw [totals_eq]
  refine ⟨rfl, rfl, rfl, fun e he => ?_⟩
  obtain ⟨_, _, _, hfa⟩ := hcf e he
  rw [hfa, area, hFloor]
  cases P.flrh <;> rfl

private theorem sum_const_mul {es : List (Entry K)} {f : Entry K → K} {v : K}
    (hf : ∀ e ∈ es, f e = v) :
    (es.map (fun e => e.frac * f e)).sum = (es.map (·.frac)).sum * v := by
  induction es with
  | nil => simp
  | cons e rest ih =>
    simp only [List.map_cons, List.sum_cons]
    rw [ih (fun e he => hf e (List.mem_cons_of_mem _ he)), hf e (List.mem_cons_self ..), add_mul]

/-- T3 with the overrides spelled out: when glazing ratio, SHGC and wall albedo are all set, the
    three stock averages are the override values times the total simulated fraction. -/
theorem totals_all_overridden (P : Params K) (lib : Lib K) (es : List (Entry K)) (tot : Totals K)
    (g s w : K) (hg : P.glzr = some g) (hs : P.shgc = some s) (hw : P.albwall = some w)
    (h : computeBEM P lib = .ok (es, tot)) :
    tot.rGlaze = (es.map (·.frac)).sum * g ∧ tot.shgc = (es.map (·.frac)).sum * s ∧
    tot.albWall = (es.map (·.frac)).sum * w := by
  obtain ⟨t1, t2, t3, _⟩ := totals_formula P lib es tot h
  obtain ⟨o1, o2, o3, _⟩ := override_applied P lib es tot h
  rw [t1, t2, t3]
  exact ⟨sum_const_mul (o1 g hg), sum_const_mul (o2 s hs), sum_const_mul (o3 w hw)⟩

/-- **T4.** Independence across all 2⁶ subsets. Take two parameter sets that agree on zone and stock
    list and differ arbitrarily in the six overrides (and in the geometry). If both selections
    succeed they simulate the same archetypes (type, era, identity, fraction) in the same order, and
    for each of the six attributes: if *that* override agrees in the two sets, the carried values
    agree — whatever the other five do. (Together with T1/T2: each attribute of each building is a
    function of its own override and its reference value only.) -/
theorem override_independent (P P' : Params K) (lib : Lib K)
    (es es' : List (Entry K)) (tot tot' : Totals K)
    (hzone : P'.zone = P.zone) (hbld : P'.bld = P.bld)
    (h : computeBEM P lib = .ok (es, tot)) (h' : computeBEM P' lib = .ok (es', tot')) :
    es'.map (fun e => (e.arch.bldtype, e.arch.era, e.arch.pid, e.frac)) =
      es.map (fun e => (e.arch.bldtype, e.arch.era, e.arch.pid, e.frac)) ∧
    (P'.glzr = P.glzr → es'.map (·.arch.glz) = es.map (·.arch.glz)) ∧
    (P'.shgc = P.shgc → es'.map (·.arch.shgc) = es.map (·.arch.shgc)) ∧
    (P'.albwall = P.albwall → es'.map (·.arch.albWall) = es.map (·.arch.albWall)) ∧
    (P'.albroof = P.albroof → es'.map (·.arch.albRoof) = es.map (·.arch.albRoof)) ∧
    (P'.vegroof = P.vegroof → es'.map (·.arch.vegRoof) = es.map (·.arch.vegRoof)) ∧
    (P'.flrh = P.flrh → es'.map (·.arch.flrH) = es.map (·.arch.flrH)) := by
  obtain ⟨-, z, rows, hs, rfl, hz, hk, hsc, -⟩ := computeBEM_ok h
  obtain ⟨-, z', rows', hs', rfl, hz', hk', hsc', -⟩ := computeBEM_ok h'
  -- the scan does not read the overrides: both runs made the same hits
  cases hz.symm.trans (hzone ▸ hz'); cases hk.symm.trans (hbld ▸ hk')
  cases hsc.symm.trans hsc'
  simp only [List.map_map]
  refine ⟨rfl, ?_, ?_, ?_, ?_, ?_, ?_⟩ <;>
  · intro he
    apply List.map_congr_left
    intro x _
    simp only [Function.comp, mkEntry, applyOv, he]

/-- Floor height 0 is **rejected by the `flr_h` setter** (`float_in_range_excl(v, 0)`: strictly
    positive). The division by the floor height in `_compute_BEM` still raises `ZeroDivisionError`
    for 0 (second conjunct, kept in the model), but that path is unreachable through the setter:
    every accepted floor height makes `hFloor` non-zero (third conjunct). -/
theorem flrh_zero_refused [LinearOrder K] [IsStrictOrderedRing K] (P : Params K) (lib : Lib K) :
    ovSetterPos (some (0 : K)) = .error .assert ∧
    (P.flrh = some 0 → computeBEM P lib = .error .zerodiv) ∧
    (ovSetterPos P.flrh = .ok P.flrh → hFloor P ≠ 0) := by
  refine ⟨by simp [ovSetterPos], ?_, ?_⟩
  · intro h0; unfold computeBEM hFloor; rw [h0]; simp
  · intro hacc
    unfold hFloor
    cases hf : P.flrh with
    | none => simp only; norm_num
    | some v =>
      simp only [hf, ovSetterPos, Except.ite_error_right_eq_ok] at hacc
      exact ne_of_gt hacc.1

/-- The accepted values of the six setters: `None`, or any `v` with `0 ≤ v ≤ 1` — the boundary
    values 0 and 1 included — for the five ratios; `None` or any `v > 0` for the floor height. -/
theorem setters_accept [LinearOrder K] [IsStrictOrderedRing K] :
    ovSetter01 (none : Option K) = .ok none ∧ ovSetter01 (some (0 : K)) = .ok (some 0) ∧
    ovSetter01 (some (1 : K)) = .ok (some 1) ∧ ovSetterPos (none : Option K) = .ok none ∧
    (∀ v : K, (∃ o, ovSetter01 (some v) = .ok o) ↔ 0 ≤ v ∧ v ≤ 1) ∧
    (∀ v : K, (∃ o, ovSetterPos (some v) = .ok o) ↔ 0 < v) := by
  refine ⟨rfl, if_pos ⟨le_rfl, zero_le_one⟩, if_pos ⟨zero_le_one, le_rfl⟩, rfl, ?_, ?_⟩
  · intro v
    simp only [ovSetter01, Except.ite_error_right_eq_ok]
    exact ⟨fun ⟨_, hv, _⟩ => hv, fun hv => ⟨_, hv, rfl⟩⟩
  · intro v
    simp only [ovSetterPos, Except.ite_error_right_eq_ok]
    exact ⟨fun ⟨_, hv, _⟩ => hv, fun hv => ⟨_, hv, rfl⟩⟩

/-! ### Through `generate` (with custom archetypes) -/

/-- T1 and the three stock averages of T3 hold verbatim for `generate` with any list of custom
    archetypes: the selection then runs on the customised library. -/
theorem override_applied_generate (P : Params K) (cs : List (Arch K)) (lib : Lib K)
    (es : List (Entry K)) (tot : Totals K) (h : generateBEM P cs lib = .ok (es, tot)) :
    (∀ v, P.glzr = some v → ∀ e ∈ es, e.arch.glz = v) ∧
    (∀ v, P.shgc = some v → ∀ e ∈ es, e.arch.shgc = v) ∧
    (∀ v, P.albwall = some v → ∀ e ∈ es, e.arch.albWall = v) ∧
    (∀ v, P.albroof = some v → ∀ e ∈ es, e.arch.albRoof = v) ∧
    (∀ v, P.vegroof = some v → ∀ e ∈ es, e.arch.vegRoof = v) ∧
    (∀ v, P.flrh = some v → ∀ e ∈ es, e.arch.flrH = v) ∧
    tot.rGlaze = (es.map (fun e => e.frac * e.arch.glz)).sum ∧
    tot.shgc = (es.map (fun e => e.frac * e.arch.shgc)).sum ∧
    tot.albWall = (es.map (fun e => e.frac * e.arch.albWall)).sum := by
  obtain ⟨_, lib', _, _, _, hc⟩ := generateBEM_ok h
  obtain ⟨a1, a2, a3, a4, a5, a6⟩ := override_applied P lib' es tot hc
  obtain ⟨t1, t2, t3, _⟩ := totals_formula P lib' es tot hc
  exact ⟨a1, a2, a3, a4, a5, a6, t1, t2, t3⟩

/-! ### Witnesses (ℚ) -/

section Witnesses
open Uwg.C07

def ovP (glzr flrh : Option ℚ) : Params ℚ :=
  ⟨"1A", [⟨"largeoffice", "pst80", 1⟩], glzr, some 1, none, some 0, none, flrh, 1000, 1 / 2, 10⟩

/-- Per building `[glazing ratio, SHGC, roof albedo, floor height]`, then `[r_glaze_total]`. -/
def glzOf (r : Except Err (List (Entry ℚ) × Totals ℚ)) : Option (List (List ℚ)) :=
  match r with
  | .ok (es, t) =>
    some (es.map (fun e => [e.arch.glz, e.arch.shgc, e.arch.albRoof, e.arch.flrH]) ++ [[t.rGlaze]])
  | .error _ => none

/-- Non-vacuity of T1–T4 and the boundary values: glazing ratio 0, SHGC 1, roof albedo 0, floor
    height 4 are all carried; the unset ones keep the reference values. -/
example : glzOf (computeBEM (ovP (some 0) (some 4)) exLib) = some [[0, 1, 0, 4], [0]] ∧
    glzOf (computeBEM (ovP none none) exLib) = some [[1 / 4, 1, 0, 3], [1 / 4]] := by
  decide +kernel

/-- Before the repair (`if self.glzr:`) an override set to 0 was ignored: the building kept its
    reference glazing ratio 1/4 and roof albedo 3/8. -/
theorem asis_override_zero_ignored :
    glzOf (computeBEMAsis (ovP (some 0) none) exLib) = some [[1 / 4, 1, 3 / 8, 3], [1 / 4]] := by
  decide +kernel

end Witnesses

end Uwg.C08
