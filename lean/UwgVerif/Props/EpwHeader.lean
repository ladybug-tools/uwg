/-
Property theorems about the header interpretation of the rural EPW file (`UWG._read_epw`, model
`Uwg.Epw.readHeader`). They serve C12 (the site that the sun position uses is the LOCATION line's), C20 (the ground
column is padded to the depths the file states) and C03 (deep temperature = the file's monthly value).
-/
import UwgVerif.Model.EpwHeader
import UwgVerif.Lemmas.Except

namespace Uwg.Epw
open Uwg.C06

/-! ### what a returning reader went through -/

theorem floatAt_eq_ok {r : List Str} {i : Nat} {v : Rat} :
    floatAt r i = .ok v ↔ ∃ c, r[i]? = some c ∧ parseFloat c = some v := by
  unfold floatAt cellAt
  cases r[i]? with
  | none => simp [bind, Except.bind]
  | some c => cases h : parseFloat c <;> simp [h, Except.ok_bind]

theorem intAt_eq_ok {r : List Str} {i : Nat} {n : Int} :
    intAt r i = .ok n ↔ ∃ c, r[i]? = some c ∧ parseInt c = some n := by
  unfold intAt cellAt
  cases r[i]? with
  | none => simp [bind, Except.bind]
  | some c => cases h : parseInt c <;> simp [h, Except.ok_bind]

theorem rowAt_eq_ok {hdr : List (List Str)} {i : Nat} {r : List Str} : rowAt hdr i = .ok r ↔ hdr[i]? = some r := by
  unfold rowAt
  cases hdr[i]? <;> simp

theorem readSite_eq_ok {loc : List Str} {site : Site} :
    readSite loc = .ok site ↔
      floatAt loc 6 = .ok site.lat ∧ floatAt loc 7 = .ok site.lon ∧ floatAt loc 8 = .ok site.gmt := by
  simp only [readSite, Except.bind_eq_ok, Except.pure_eq_ok]
  constructor
  · rintro ⟨_, h6, _, h7, _, h8, rfl⟩
    exact ⟨h6, h7, h8⟩
  · rintro ⟨h6, h7, h8⟩
    exact ⟨_, h6, _, h7, _, h8, rfl⟩

theorem readSite_ok {loc : List Str} {site : Site} (h : readSite loc = .ok site) :
    ∃ a b c, loc[6]? = some a ∧ loc[7]? = some b ∧ loc[8]? = some c ∧ parseFloat a = some site.lat ∧
      parseFloat b = some site.lon ∧ parseFloat c = some site.gmt := by
  obtain ⟨⟨a, ha, pa⟩, ⟨b, hb, pb⟩, ⟨c, hc, pc⟩⟩ := by simpa only [floatAt_eq_ok] using readSite_eq_ok.1 h
  exact ⟨a, b, c, ha, hb, hc, pa, pb, pc⟩

theorem readGround_eq_ok {g : List Str} {G : Ground} :
    readGround g = .ok G ↔ intAt g 1 = .ok G.nSoil ∧ readRecs g 0 G.nSoil.toNat = .ok G.recs := by
  simp only [readGround, Except.bind_eq_ok, Except.pure_eq_ok]
  constructor
  · rintro ⟨_, hn, _, hr, rfl⟩
    exact ⟨hn, hr⟩
  · rintro ⟨hn, hr⟩
    exact ⟨_, hn, _, hr, rfl⟩

theorem readHeader_eq_ok {hdr : List (List Str)} {site : Site} {g : Ground} :
    readHeader hdr = .ok (site, g) ↔
      ∃ loc gl, hdr[0]? = some loc ∧ hdr[3]? = some gl ∧ readSite loc = .ok site ∧ readGround gl = .ok g := by
  simp only [readHeader, Except.bind_eq_ok, Except.pure_eq_ok, rowAt_eq_ok, Prod.mk.injEq]
  constructor
  · rintro ⟨loc, h0, _, hs, gl, h3, _, hg, rfl, rfl⟩
    exact ⟨loc, gl, h0, h3, hs, hg⟩
  · rintro ⟨loc, gl, h0, h3, hs, hg⟩
    exact ⟨loc, h0, _, hs, gl, h3, _, hg, rfl, rfl⟩

/-! ### the ground record, cell by cell -/

theorem readMonths_ok {g : List Str} {b : Nat} : ∀ {k j : Nat} {ms : List Rat}, readMonths g b j k = .ok ms →
    ∀ i, i < k → ∃ v, floatAt g (6 + b + j + i) = .ok v ∧ ms[i]? = some (v + 27315 / 100)
  | 0, _, _, _, _, hi => by omega
  | k + 1, j, ms, h, i, hi => by
    simp only [readMonths, Except.bind_eq_ok, Except.pure_eq_ok] at h
    obtain ⟨t, ht, rest, hrest, rfl⟩ := h
    cases i with
    | zero => exact ⟨t, ht, rfl⟩
    | succ i =>
      obtain ⟨v, hv, hi⟩ := readMonths_ok hrest i (by omega)
      exact ⟨v, by rw [← hv, show 6 + b + j + (i + 1) = 6 + b + (j + 1) + i by omega], hi⟩

theorem readRecs_ok {g : List Str} : ∀ {k b : Nat} {rs : List GRec}, readRecs g b k = .ok rs →
    rs.length = k ∧ ∀ i, i < k → ∃ d ms, rs[i]? = some ⟨d, ms⟩ ∧ floatAt g (2 + b + 16 * i) = .ok d ∧
      readMonths g (b + 16 * i) 0 12 = .ok ms
  | 0, _, _, h => by cases h; exact ⟨rfl, fun _ hi => by omega⟩
  | k + 1, b, rs, h => by
    simp only [readRecs, Except.bind_eq_ok, Except.pure_eq_ok] at h
    obtain ⟨d, hd, ms, hms, rest, hrest, rfl⟩ := h
    obtain ⟨hlen, hget⟩ := readRecs_ok hrest
    refine ⟨by rw [List.length_cons, hlen], fun i hi => ?_⟩
    cases i with
    | zero => exact ⟨d, ms, rfl, hd, hms⟩
    | succ i =>
      obtain ⟨d', ms', h1, h2, h3⟩ := hget i (by omega)
      exact ⟨d', ms', h1, by rw [← h2]; congr 1; omega, by rw [← h3]; congr 1; omega⟩

theorem readGround_recs_length {gl : List Str} {G : Ground} (h : readGround gl = .ok G) :
    G.recs.length = G.nSoil.toNat :=
  (readRecs_ok (readGround_eq_ok.1 h).2).1

theorem readHeader_recs_length {hdr : List (List Str)} {site : Site} {g : Ground}
    (h : readHeader hdr = .ok (site, g)) : g.recs.length = g.nSoil.toNat := by
  obtain ⟨_, gl, _, _, _, hg⟩ := readHeader_eq_ok.1 h
  exact readGround_recs_length hg

theorem readGround_month {gl : List Str} {G : Ground} (h : readGround gl = .ok G) {i m : Nat}
    (hi : i < G.recs.length) (hm : m < 12) :
    ∃ c v, gl[6 + 16 * i + m]? = some c ∧ parseFloat c = some v ∧
      (G.recs[i]?).bind (·.months[m]?) = some (v + 27315 / 100) := by
  obtain ⟨hlen, hget⟩ := readRecs_ok (readGround_eq_ok.1 h).2
  obtain ⟨d, ms, hr, _, hms⟩ := hget i (hlen ▸ hi)
  obtain ⟨v, hv, hmv⟩ := readMonths_ok hms m hm
  obtain ⟨c, hc, hp⟩ := floatAt_eq_ok.1 hv
  exact ⟨c, v, by rw [← hc]; congr 1; omega, hp, by rw [hr]; exact hmv⟩

/-! ### a line laid out as the data dictionary says

The layout is given as what the line holds from the reader's position on (`g.drop n = cells ++ rest`), whatever came
before. -/

theorem readMonths_returns {g : List Str} {b : Nat} :
    ∀ (cells rest : List Str) (vals : List Rat) (j : Nat), parseAll cells = some vals →
      g.drop (6 + b + j) = cells ++ rest → readMonths g b j cells.length = .ok (vals.map (· + 27315 / 100))
  | [], _, vals, j, hv, _ => by cases hv; rfl
  | c :: cs, rest, vals, j, hv, hg => by
    unfold parseAll at hv
    split at hv
    · rename_i v vs hc hcs
      cases hv
      have h0 : floatAt g (6 + b + j) = .ok v := floatAt_eq_ok.2 ⟨c, by rw [← List.head?_drop, hg]; rfl, hc⟩
      have ih := readMonths_returns cs rest vs (j + 1) hcs
        (by rw [← Nat.add_assoc, List.drop_add_one_eq_tail_drop, hg]; rfl)
      rw [List.length_cons, readMonths, h0, ih]
      rfl
    · cases hv

theorem readRecs_returns {g : List Str} : ∀ (recs : List GText) (b : Nat) (trailing : List Str) (parsed : List GRec),
    g.drop (2 + b) = recs.flatMap GText.cells ++ trailing → (∀ r ∈ recs, r.months.length = 12) →
    parseRecs recs = some parsed → readRecs g b recs.length = .ok parsed
  | [], _, _, _, _, _, hp => by cases hp; rfl
  | r :: rs, b, trailing, parsed, hg, hm, hp => by
    unfold parseRecs parseRec at hp
    split at hp
    · rename_i v vs hr hrs
      cases hp
      split at hr
      · rename_i d ms hd hms
        cases hr
        have hm12 : r.months.length = 12 := hm r List.mem_cons_self
        have hg' : g.drop (2 + b) =
            r.depth :: r.p1 :: r.p2 :: r.p3 :: (r.months ++ (rs.flatMap GText.cells ++ trailing)) := by
          simpa [GText.cells] using hg
        have hdepth : floatAt g (2 + b) = .ok d := floatAt_eq_ok.2 ⟨_, by rw [← List.head?_drop, hg']; rfl, hd⟩
        have hmon := readMonths_returns (g := g) (b := b) r.months _ ms 0 hms
          (by rw [show 6 + b + 0 = 2 + b + 4 by omega, ← List.drop_drop, hg']; rfl)
        have ih := readRecs_returns (g := g) rs (b + 16) trailing vs
          (by rw [show 2 + (b + 16) = 2 + b + 16 by omega, ← List.drop_drop, hg']; exact List.drop_left' hm12)
          (fun q hq => hm q (List.mem_cons_of_mem _ hq)) hrs
        rw [List.length_cons, readRecs, hdepth, ← hm12, hmon, ih]
        rfl
      · cases hr
    · cases hp

/-! ### property theorems -/

/-- **Ground line, every number of depths.** For a ground-temperature line laid out as the EPW data dictionary says
(label, count, then per depth: depth, three soil-property cells, twelve monthly cells; anything after that), whose
count cell reads `n = number of records` and whose depth and monthly cells are numbers, `_read_epw` returns exactly
the `n` stated depths and the twelve monthly values of each record in Kelvin - for every `n`, whatever the
soil-property cells and the trailing cells contain. -/
theorem readGround_groundLine (label count : Str) (recs : List GText) (trailing : List Str)
    (parsed : List GRec) (hc : parseInt count = some (recs.length : Int))
    (hm : ∀ r ∈ recs, r.months.length = 12) (hp : parseRecs recs = some parsed) :
    readGround (groundLine label count recs trailing) = .ok ⟨(recs.length : Int), parsed⟩ :=
  readGround_eq_ok.2 ⟨intAt_eq_ok.2 ⟨count, rfl, hc⟩, readRecs_returns recs 0 trailing parsed rfl hm hp⟩

/-- the result does not depend on the soil-property cells, the label or the trailing cells -/
theorem readGround_indep (label label' count : Str) (recs recs' : List GText) (trailing trailing' : List Str)
    (parsed : List GRec) (hc : parseInt count = some (recs.length : Int))
    (hm : ∀ r ∈ recs, r.months.length = 12) (hp : parseRecs recs = some parsed)
    (hlen : recs'.length = recs.length) (hm' : ∀ r ∈ recs', r.months.length = 12)
    (hp' : parseRecs recs' = some parsed) :
    readGround (groundLine label count recs trailing) = readGround (groundLine label' count recs' trailing') := by
  rw [readGround_groundLine label count recs trailing parsed hc hm hp,
    readGround_groundLine label' count recs' trailing' parsed (by rw [hlen]; exact hc) hm' hp', hlen]

/-- **Site.** A LOCATION line whose cells 6, 7, 8 are numbers is read, and the site is these three numbers. (That no
other cell of the line matters is `readSite_congr`.) -/
theorem readSite_cells (loc : List Str) (a b c : Str) (x y z : Rat) (h6 : loc[6]? = some a)
    (h7 : loc[7]? = some b) (h8 : loc[8]? = some c) (ha : parseFloat a = some x) (hb : parseFloat b = some y)
    (hcz : parseFloat c = some z) : readSite loc = .ok ⟨x, y, z⟩ :=
  readSite_eq_ok.2 ⟨floatAt_eq_ok.2 ⟨a, h6, ha⟩, floatAt_eq_ok.2 ⟨b, h7, hb⟩, floatAt_eq_ok.2 ⟨c, h8, hcz⟩⟩

theorem readSite_congr (l₁ l₂ : List Str) (h6 : l₁[6]? = l₂[6]?) (h7 : l₁[7]? = l₂[7]?) (h8 : l₁[8]? = l₂[8]?) :
    readSite l₁ = readSite l₂ := by
  simp only [readSite, floatAt, cellAt, h6, h7, h8]

/-- **Header.** Two headers that agree on cells 6..8 of line 1 and on line 4 are interpreted identically (every
other header line and cell is irrelevant to the simulation's site and ground data). -/
theorem readHeader_congr (h₁ h₂ : List (List Str)) (l₁ l₂ g : List Str) (e1 : h₁[0]? = some l₁)
    (e2 : h₂[0]? = some l₂) (g1 : h₁[3]? = some g) (g2 : h₂[3]? = some g) (h6 : l₁[6]? = l₂[6]?)
    (h7 : l₁[7]? = l₂[7]?) (h8 : l₁[8]? = l₂[8]?) : readHeader h₁ = readHeader h₂ := by
  simp only [readHeader, rowAt, e1, e2, g1, g2, Except.ok_bind, readSite_congr l₁ l₂ h6 h7 h8]

/-- fail-stop: a header with fewer than four lines is not interpreted - `_read_epw` raises (the IndexError of the
missing line, unless the LOCATION line has raised before), never a silently defaulted site or ground record -/
theorem readHeader_short (h : List (List Str)) (hl : h.length < 4) : ∃ e, readHeader h = .error e := by
  cases hr : readHeader h with
  | error e => exact ⟨e, rfl⟩
  | ok sg =>
    obtain ⟨_, gl, _, h3, _⟩ := readHeader_eq_ok.1 hr
    have := (List.getElem?_eq_some_iff.1 h3).1
    omega

/-! ### non-vacuity: a ground line with the count, depths and empty soil-property cells of the shipped Singapore file -/

def sgpGround : List Str :=
  ["GROUND TEMPERATURES", "3", ".5", "", "", "", "27.55", "27.84", "28.04", "28.13", "28.07", "27.84", "27.55", "27.28",
   "27.09", "27.00", "27.07", "27.28", "2", "", "", "", "27.70", "27.87", "27.99", "28.06", "28.04", "27.92", "27.75",
   "27.59", "27.46", "27.39", "27.41", "27.52", "4", "", "", "", "27.73", "27.82", "27.90", "27.94", "27.94", "27.88",
   "27.79", "27.69", "27.61", "27.56", "27.56", "27.62"].map String.toList

example : (readGround sgpGround).toOption.map (fun g => (g.nSoil, g.recs.map (·.depth))) =
    some (3, [1 / 2, 2, 4]) := by decide +kernel

example : (readGround sgpGround).toOption.bind (fun g => (g.recs.head?).bind (·.months.head?)) =
    some (27.55 + 273.15 : Rat) := by decide +kernel

end Uwg.Epw
