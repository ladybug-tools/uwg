/-
Composition C — the physics time step of `UWG.simulate` as one function (`Model/Step.lean`).

`Step.phys S C` packages `Step.step` / `Step.record` as an instance of the interface `Sim.Phys` over
which the C03 (causality) and C10 (fail-stop) theorems are proved for an *arbitrary* physics. The
corollaries below instantiate them at the concrete physics; each is one line from the generic theorem.
That a step reads only its state, the current row, the clock and the deep temperatures is the *type* of
`step`, tied to the real loop body by the exact correspondence of `harness/props/step.py`;
`step_footprint` states it for a whole forcing table.

The cross-kernel facts are the step-level forms of C09 (`step_canHum_is_rural`, `step_record_*`),
C02/C01 (`step_wind_recorded`), C10 (`step_canTemp_bounds`, `step_zero_load_defined`), C04
(`step_schedule_lookups`), C18 (`step_offseason_*`) and C14 (`step_hvac_never_both`); kernel facts are
reused, not re-proved.
-/
import UwgVerif.Lemmas.Step
import UwgVerif.Props.C03
import UwgVerif.Props.C10
import UwgVerif.Props.C15

namespace Uwg.StepProps
open Uwg.Step Uwg.Sim Uwg.C02

variable {K : Type} [Field K] [LinearOrder K] [IsStrictOrderedRing K]

/-! ## The concrete physics in the theorems of C03 and C10 -/

/-- The loop body and the record block *are* the two fields of the physics that the driver model
    iterates. -/
theorem step_phys (S : Sym K) (C : Cfg K) :
    (phys S C).step = step S C ∧ (phys S C).record = record := ⟨rfl, rfl⟩

/-- C03-T1 for uwg's own physics: with the deep temperature taken from the monthly table of the header,
    the records for hours `0 … h` are the same for any two rural windows that agree on rows `0 … h`. -/
theorem step_causal (S : Sym K) (C : Cfg K) (table : Nat → Deep K) (dt M Dy days : Nat)
    (rows rows' : List (FRow K)) (s0 : State K) (h : Nat)
    (hv : Valid ⟨dt, M, Dy, days, rows.length⟩) (hv' : Valid ⟨dt, M, Dy, days, rows'.length⟩)
    (hh : h < 24 * days) (hrows : rows.take (h + 1) = rows'.take (h + 1)) :
    (recordsOf (simulate (phys S C) (.monthly table) dt M Dy days rows s0)).take (h + 1) =
    (recordsOf (simulate (phys S C) (.monthly table) dt M Dy days rows' s0)).take (h + 1) :=
  C03.causal (phys S C) table dt M Dy days rows rows' s0 h hv hv' hh hrows

/-- C03-T2: simulating more days leaves the records of the shorter run unchanged. -/
theorem step_extend_days (S : Sym K) (C : Cfg K) (table : Nat → Deep K) (dt M Dy d₁ d₂ : Nat)
    (rows : List (FRow K)) (s0 : State K) (hd : d₁ ≤ d₂) (hpos : 0 < d₁)
    (hv₁ : Valid ⟨dt, M, Dy, d₁, (rows.take (24 * d₁)).length⟩)
    (hv₂ : Valid ⟨dt, M, Dy, d₂, rows.length⟩) :
    (recordsOf (simulate (phys S C) (.monthly table) dt M Dy d₁ (rows.take (24 * d₁)) s0)).take (24 * d₁) =
    (recordsOf (simulate (phys S C) (.monthly table) dt M Dy d₂ rows s0)).take (24 * d₁) :=
  C03.extend_days (phys S C) table dt M Dy d₁ d₂ rows s0 hd hpos hv₁ hv₂

/-- C03-T3: only the rows of the simulated window of the rural file are read. -/
theorem step_outside_window_irrelevant {α : Type} (S : Sym K) (C : Cfg K) (b : Bool)
    (table : Nat → Deep K) (mean : List (FRow K) → Deep K) (proj : α → FRow K) (dt M Dy days : Nat)
    (file file' : List α) (init : Option (FRow K) → State K)
    (hwin : ∀ i, 24 * (Clock.init M Dy).julian ≤ i → i < 24 * (Clock.init M Dy).julian + 24 * days →
      file[i]? = file'[i]?) :
    simulateFile (phys S C) b table mean proj dt M Dy days file init =
    simulateFile (phys S C) b table mean proj dt M Dy days file' init :=
  C03.outside_window_irrelevant (phys S C) b table mean proj dt M Dy days file file' init hwin

/-- C03-T4: columns of the rural file outside the projection onto `FRow` do not matter. -/
theorem step_unmodelled_columns_irrelevant {α : Type} (S : Sym K) (C : Cfg K) (b : Bool)
    (table : Nat → Deep K) (mean : List (FRow K) → Deep K) (proj : α → FRow K) (dt M Dy days : Nat)
    (file file' : List α) (init : Option (FRow K) → State K)
    (hcols : (window M Dy days file).map proj = (window M Dy days file').map proj) :
    simulateFile (phys S C) b table mean proj dt M Dy days file init =
    simulateFile (phys S C) b table mean proj dt M Dy days file' init :=
  C03.unmodelled_columns_irrelevant (phys S C) b table mean proj dt M Dy days file file' init hcols

/-- C03-T5: with fewer than three ground depths later rows act only through the window mean. -/
theorem step_nsoil_lt3_only_via_mean (S : Sym K) (C : Cfg K) (m m' : Deep K) (dt M Dy days : Nat)
    (rows rows' : List (FRow K)) (s0 : State K) (h : Nat)
    (hv : Valid ⟨dt, M, Dy, days, rows.length⟩) (hv' : Valid ⟨dt, M, Dy, days, rows'.length⟩)
    (hh : h < 24 * days) (hrows : rows.take (h + 1) = rows'.take (h + 1)) (hm : m = m') :
    (recordsOf (simulate (phys S C) (.windowMean m) dt M Dy days rows s0)).take (h + 1) =
    (recordsOf (simulate (phys S C) (.windowMean m') dt M Dy days rows' s0)).take (h + 1) :=
  C03.nsoil_lt3_only_via_mean (phys S C) m m' dt M Dy days rows rows' s0 h hv hv' hh hrows hm

/-- C10-T2a: a run of uwg's own physics that returns has every one of its `24·days` records. -/
theorem step_records_complete (S : Sym K) (C : Cfg K) (soil : Soil (Deep K)) (dt M Dy days : Nat)
    (rows : List (FRow K)) (s0 s' : State K) (recs : List (Rec K))
    (hv : Valid ⟨dt, M, Dy, days, rows.length⟩)
    (h : simulate (phys S C) soil dt M Dy days rows s0 = .ok (s', recs)) : recs.length = 24 * days :=
  C10.records_complete_on_return (phys S C) soil dt M Dy days rows s0 s' recs hv h

/-- C10-T2c: all records, or an exception — nothing else. -/
theorem step_return_or_exception (S : Sym K) (C : Cfg K) (soil : Soil (Deep K)) (dt M Dy days : Nat)
    (rows : List (FRow K)) (s0 : State K) (hv : Valid ⟨dt, M, Dy, days, rows.length⟩) :
    (∃ s' recs, simulate (phys S C) soil dt M Dy days rows s0 = .ok (s', recs) ∧
      recs.length = 24 * days) ∨
    (∃ recs e, simulate (phys S C) soil dt M Dy days rows s0 = .error (recs, e)) :=
  C10.return_or_exception (phys S C) soil dt M Dy days rows s0 hv

/-! ## Footprint -/

/-- The outcome of the loop body is a function of the state, the clock view, the
    deep temperatures, the parameters and the *current* row of the forcing table: two tables that agree
    on row `ceil_time_step` give the same outcome (new state or exception), whatever their other rows
    hold — for the loop body seen from the table (`body`) and for the driver loop over that one pass
    (`Sim.runSteps` on the trace `[t]`; any trace: `step_run_footprint`). -/
theorem step_footprint (S : Sym K) (C : Cfg K) (tab tab' : List (FRow K)) (d : Deep K) (s : State K)
    (t : StepTrace) (hrow : tab[t.row]? = tab'[t.row]?) :
    body S C tab d s t = body S C tab' d s t ∧
    ∀ acc, runSteps (phys S C) (fun _ => d) tab [t] s acc =
           runSteps (phys S C) (fun _ => d) tab' [t] s acc := by
  refine ⟨by unfold body; rw [hrow], fun acc => ?_⟩
  exact runSteps_congr (phys S C) _ _ tab tab' [t] (by simpa using hrow) s acc

/-- `step_footprint` for any number of passes: the driver loop over a trace reads the
    forcing table only at the rows `ceil_time_step` of its passes (and the deep temperatures only at
    those passes). This is `Sim.runSteps_congr` at uwg's own physics; nothing of `step` enters. -/
theorem step_run_footprint (S : Sym K) (C : Cfg K) (deep deep' : StepTrace → Deep K)
    (tab tab' : List (FRow K)) (tr : List StepTrace)
    (h : ∀ t ∈ tr, tab[t.row]? = tab'[t.row]? ∧ deep t = deep' t) (s : State K) (acc : List (Rec K)) :
    runSteps (phys S C) deep tab tr s acc = runSteps (phys S C) deep' tab' tr s acc :=
  runSteps_congr (phys S C) deep deep' tab tab' tr h s acc

/-- The forcing object left by the previous pass is never read: the
    selection block overwrites every field before anything uses it. -/
theorem step_stale_forcing_dead (S : Sym K) (C : Cfg K) (s : State K) (f' : Forcing K) (t : StepTrace)
    (r : FRow K) (d : Deep K) :
    step S C { s with forc := f' } t r d = step S C s t r d := rfl

/-- After a pass, `forc` holds the current row verbatim, the wind raised
    to `windMin`, and the deep / ground-water temperatures handed in. -/
theorem step_forcing_selected {S : Sym K} {C : Cfg K} {s s' : State K} {t : StepTrace} {r : FRow K}
    {d : Deep K} (h : step S C s t r d = .ok s') : s'.forc = forcOf C.par.windMin r d := by
  obtain ⟨st, rfl⟩ := step_ok h
  rfl

/-! ## C09 at step level -/

/-- The canyon moisture after a pass is the humidity ratio of the rural
    row of that pass — nothing is added or removed by the physics. -/
theorem step_canHum_is_rural {S : Sym K} {C : Cfg K} {s s' : State K} {t : StepTrace} {r : FRow K}
    {d : Deep K} (h : step S C s t r d = .ok s') : s'.ucm.canHum = r.hum := by
  obtain ⟨st, rfl⟩ := step_ok h
  rfl

/-- At a record step that returns, `UCM.canRHum` and `UCM.Tdp` are the
    relative humidity and dew point `psychrometrics` computes from the NEW canyon temperature, the
    rural humidity ratio and the rural pressure of the row (so the defaults in `Step.record` are not
    used there). -/
theorem step_record_defined {S : Sym K} {C : Cfg K} {s s' : State K} {t : StepTrace} {r : FRow K}
    {d : Deep K} (h : step S C s t r d = .ok s') (hrec : t.recorded = true) :
    ∃ p, psychro S s'.ucm.canTemp r.hum r.pres = .ok p ∧ s'.ucm.canRHum = some p.phi ∧
      s'.ucm.tdp = some p.tdp ∧
      record s' t r = { canTemp := s'.ucm.canTemp, tdp := p.tdp, canRHum := p.phi,
                        wind := max r.wind C.par.windMin } := by
  obtain ⟨st, rfl⟩ := step_ok h
  have hp := st.hpsy
  unfold recordStage at hp
  rw [if_pos hrec] at hp
  split at hp
  · cases hp
  rename_i p hq
  simp only [Except.ok.injEq] at hp
  refine ⟨p, hq, ?_⟩
  simp only [Stages.post, record, assemble, ← hp, Option.getD_some, forcOf, and_self]

/-- The link to C09: when the row's humidity ratio is what
    `Weather` computed from the rural (RH, T, P) of that row, the pair stored at a record step is
    exactly `Uwg.recordHumidity` (`Model/Psychro.lean`, the function the theorems of `Props/C09.lean` are
    about) at the new canyon temperature. -/
theorem step_record_is_recordHumidity {S : Sym K} {C : Cfg K} {s s' : State K} {t : StepTrace}
    {r : FRow K} {d : Deep K} (row : RuralRow K) (h : step S C s t r d = .ok s')
    (hrec : t.recorded = true) (hw : canHumOf S row = .ok r.hum) (hp : row.pres = r.pres) :
    ∃ p, recordHumidity S row s'.ucm.canTemp = .ok p ∧ s'.ucm.canRHum = some p.phi ∧
      s'.ucm.tdp = some p.tdp := by
  obtain ⟨p, h1, h2, h3, _⟩ := step_record_defined h hrec
  exact ⟨p, by unfold recordHumidity; rw [hw, hp]; exact h1, h2, h3⟩

/-! ## C02 / C01 at step level -/

/-- The wind that is recorded (and later written to column 21) is `max(rural wind of the row, windMin)`. -/
theorem step_wind_recorded {S : Sym K} {C : Cfg K} {s s' : State K} {t : StepTrace} {r : FRow K}
    {d : Deep K} (h : step S C s t r d = .ok s') :
    (record s' t r).wind = max r.wind C.par.windMin ∧ s'.forc.wind = max r.wind C.par.windMin := by
  have := step_forcing_selected h
  exact ⟨by simp only [record, this, forcOf], by simp only [this, forcOf]⟩

/-! ## C10 at step level -/

/-- A pass that returns leaves the canyon temperature inside the window
    that `UCModel` checks: 200 K ≤ canTemp ≤ 350 K. -/
theorem step_canTemp_bounds {S : Sym K} {C : Cfg K} {s s' : State K} {t : StepTrace} {r : FRow K}
    {d : Deep K} (h : step S C s t r d = .ok s') :
    200 ≤ s'.ucm.canTemp ∧ s'.ucm.canTemp ≤ 350 := by
  obtain ⟨st, rfl⟩ := step_ok h
  obtain ⟨_, _, hb⟩ := C15.ucModel_ok _ _ _ st.huc
  exact hb

/-- C10-T3 for uwg's own physics: every record stored by a run — returned or aborted — has its canyon
    temperature inside 200 … 350 K. -/
theorem step_bounds_on_return (S : Sym K) (C : Cfg K) (soil : Soil (Deep K)) (dt M Dy days : Nat)
    (rows : List (FRow K)) (s0 : State K) :
    ∀ x ∈ recordsOf (simulate (phys S C) soil dt M Dy days rows s0),
      200 ≤ x.canTemp ∧ x.canTemp ≤ 350 :=
  C10.bounds_on_return (phys S C) soil dt M Dy days rows s0
    (fun s => 200 ≤ s.ucm.canTemp ∧ s.ucm.canTemp ≤ 350) (fun x => 200 ≤ x.canTemp ∧ x.canTemp ≤ 350)
    (fun _ _ _ _ _ h => step_canTemp_bounds h) (fun _ _ _ h => h)

/-- About the schedule block `glueAll` of the loop body. A pass `step S C s t r d` runs it once, as
    `glueAll C (dayIdx t) t.hourDay sol.roofRec sol.wallRec C.sch s.blds` (`Stages.hglue` for a pass that
    returned), and hands the buildings it returns to `urbflux` (`headAll`); the statement is about those, not
    about the buildings of the post-state. For every building the block returns, the internal load
    `light + elec + Qocc` is non-negative (the `int_heat_night` setter), and the radiant and latent fractions
    are the guarded ratios of `C10.zero_load_defined`: `0` when the load is zero, the quotients otherwise —
    the block never divides by a zero load. -/
theorem step_zero_load_defined {C : Cfg K} {di hi : Nat} {rr wr : K} {scs : List (Sched K)}
    {bs bs' : List (Bld K)} (h : glueAll C di hi rr wr scs bs = .ok bs') :
    ∀ b' ∈ bs', 0 ≤ b'.intHeatDay ∧
      (b'.intHeatDay = 0 → b'.intHeatFRad = 0 ∧ b'.intHeatFLat = 0) ∧
      (b'.intHeatDay ≠ 0 → b'.intHeatFRad = (C.radflight * b'.light + C.radfequip * b'.elec) / b'.intHeatDay ∧
        b'.intHeatFLat = C.latfocc * C.sensocc * b'.nocc / b'.intHeatDay) := by
  intro b' hb
  obtain ⟨b, _, sc, hg⟩ := (glueAll_forall₂ h).mem_right hb
  obtain ⟨_, h0, hd, hr, hl⟩ := glueBld_ok hg
  rw [hd, hr, hl]
  refine ⟨h0, fun hz => ?_, fun hnz => ?_⟩
  · simp [Sim.loadFractions, hz]
  · simp [Sim.loadFractions, lt_of_le_of_ne h0 (Ne.symm hnz)]

/-- C04 "consequently ..." at the concrete per-building block `glueAll` (how a pass runs it, and on which
    buildings: see `step_zero_load_defined`). EVERY building the block returns - whether the hour carries
    internal load or not - holds the entries of one schedule set `sc` at the day type `di` and hour `hi` the
    block was called with: hot water, gas, both set points (day and night alike), and the equipment, light and
    occupancy loads of that same hour. Which set `sc` is (`glueAll` pairs building `i` with `scs[i]`) the
    statement does not say. -/
theorem step_schedule_lookups {C : Cfg K} {di hi : Nat} {rr wr : K} {scs : List (Sched K)}
    {bs bs' : List (Bld K)} (h : glueAll C di hi rr wr scs bs = .ok bs') :
    ∀ b' ∈ bs', ∃ sc : Sched K, ∃ cool heat fe fl fo fs fg : K,
      look sc.cool di hi = .ok cool ∧ look sc.heat di hi = .ok heat ∧ look sc.elec di hi = .ok fe ∧
      look sc.light di hi = .ok fl ∧ look sc.occ di hi = .ok fo ∧ look sc.swh di hi = .ok fs ∧
      look sc.gas di hi = .ok fg ∧
      b'.swh = sc.vSwh * fs ∧ b'.gas = sc.qGas * fg ∧ b'.vent = sc.vent ∧
      b'.coolSetDay = cool + 273.15 ∧ b'.coolSetNight = cool + 273.15 ∧
      b'.heatSetDay = heat + 273.15 ∧ b'.heatSetNight = heat + 273.15 ∧
      b'.elec = sc.qElec * fe ∧ b'.light = sc.qLight * fl ∧ b'.nocc = sc.nOcc * fo := by
  intro b' hb
  obtain ⟨b, _, sc, hg⟩ := (glueAll_forall₂ h).mem_right hb
  exact ⟨sc, (glueBld_ok hg).1⟩

/-! ## C14 at step level -/

/-- In every pass that returns, for EVERY building: `BEMCalc` ran, and
    either the heating quantities or the cooling quantities it left on the building are all zero
    (C14 `never_both`, for the inputs the loop body actually hands to `BEMCalc`). -/
theorem step_hvac_never_both {S : Sym K} {C : Cfg K} {s s' : State K} {t : StepTrace} {r : FRow K}
    {d : Deep K} (h : step S C s t r d = .ok s') :
    ∀ b ∈ s'.blds, ∃ o, b.out = some o ∧
      ((o.Qheat = 0 ∧ o.heatConsump = 0) ∨ (o.Qhvac = 0 ∧ o.coolConsump = 0 ∧ o.dehumDemand = 0)) := by
  obtain ⟨st, rfl⟩ := step_ok h
  intro b hb
  obtain ⟨b0, _, hb0⟩ := (headAll_forall₂ st.hhd).mem_right hb
  obtain ⟨i, phi, ho, _⟩ := headBld_ok hb0
  exact ⟨_, ho, C14.never_both phi i⟩

/-- A pass neither adds nor drops a building. -/
theorem step_blds_length {S : Sym K} {C : Cfg K} {s s' : State K} {t : StepTrace} {r : FRow K}
    {d : Deep K} (h : step S C s t r d = .ok s') : s'.blds.length = s.blds.length := by
  obtain ⟨st, rfl⟩ := step_ok h
  exact (headAll_forall₂ st.hhd).length_eq.symm.trans (glueAll_forall₂ st.hglue).length_eq.symm

/-! ## C18 at step level -/

/-- C18 for the whole pass, explicit form: when the month of the advanced clock lies
    outside `vegStart … vegEnd`, a pass that returns releases no vegetation heat into the canyon
    (`treeSensHeat = treeLatHeat = 0`), and the rural road and the urban road — when they are
    horizontal elements, as `generate()` builds them — absorbed exactly `(1 − albedo)·solRec` of what
    `solarcalcs` of this pass stored on them and have no latent flux: bare ground, whatever the
    vegetation fractions, vegetation albedo and latent fractions are. -/
theorem step_offseason_formula {S : Sym K} {C : Cfg K} {s s' : State K} {t : StepTrace} {r : FRow K}
    {d : Deep K} (h : step S C s t r d = .ok s')
    (hoff : t.month < C.par.vegStart ∨ t.month > C.par.vegEnd) :
    s'.ucm.treeSensHeat = 0 ∧ s'.ucm.treeLatHeat = 0 ∧
    (s.rural.horizontal = true →
      s'.rural.solAbs = (1 - s'.rural.albedo) * s'.rural.solRec ∧ s'.rural.lat = 0) ∧
    (s.ucm.road.horizontal = true →
      s'.ucm.road.solAbs = (1 - s'.ucm.road.albedo) * s'.ucm.road.solRec ∧ s'.ucm.road.lat = 0) := by
  obtain ⟨st, rfl⟩ := step_ok h
  obtain ⟨z1, z2⟩ := solar_offseason st.hsol hoff
  refine ⟨z1, z2, fun hh => ?_, fun hh => ?_⟩
  · have hr := st.hrural
    unfold ruralStage at hr
    obtain ⟨t0, _, hsf⟩ := Except.bind_eq_ok.mp hr
    exact surfFlux_offseason hsf hh (Off.element hoff)
  · have hr := st.hroad
    unfold roadStage at hr
    split at hr
    · cases hr
    exact surfFlux_offseason hr hh (Off.element hoff)

/-- C18 for the whole pass, as an equation: outside the vegetation season
    the pass on the configuration and state with the vegetation data erased (`bareC`, `bareS`: vegetation
    albedo, latent fractions, tree and vegetation cover of the canyon, `vegcoverage` and grass / tree
    cover of every element; NOT `roadShad`, which `UCMDef.__init__` derives from the tree cover and `infracalcs`
    reads in every month) has the same outcome - new state or exception class - as the pass on the
    original ones, up to those erased fields themselves. (`_normal`: the erased pair `bareC C`, `bareS s` is
    the normal form of all configurations and states that differ from `C`, `s` in vegetation data only;
    `step_offseason_bare` compares two of them through it.) -/
theorem step_offseason_bare_normal (S : Sym K) (C : Cfg K) (s : State K) (t : StepTrace) (r : FRow K)
    (d : Deep K) (hoff : Off C t) :
    step S (bareC C) (bareS s) t r d = (step S C s t r d).map bareS := by
  unfold step
  simp only [Except.map_bind, map_pure]
  refine Except.bind_congr_both (solar_bare hoff) fun sol => ?_
  refine Except.bind_congr fun tr _ => ?_
  refine Except.bind_map_congr glueAll_bare fun blds1 => ?_
  refine Except.bind_map_congr (ruralStage_bare hoff) fun rural => ?_
  refine Except.bind_congr fun rsm _ => ?_
  refine Except.bind_map_congr (headAll_bare hoff) fun hd => ?_
  refine Except.bind_map_congr (roadStage_bare hoff) fun road => ?_
  refine Except.bind_congr fun roadT _ => ?_
  refine Except.bind_congr fun tl _ => ?_
  exact Except.bind_congr_both airBlds_bare fun ab => rfl

/-- Outside the vegetation season the whole outcome of a pass - every
    temperature, flux and record, or the exception - is independent of the vegetation data: two
    configurations and states that differ ONLY in vegetation albedo, latent fractions, tree / vegetation
    cover and the vegetation fractions of their elements give the same outcome (compared with those
    fields erased). The road shading `roadShad` must be the same in both: two real configurations of different
    tree cover differ in it and are not covered. -/
theorem step_offseason_bare (S : Sym K) (C C' : Cfg K) (s s' : State K) (t : StepTrace) (r : FRow K)
    (d : Deep K) (hC : bareC C = bareC C') (hs : bareS s = bareS s') (hoff : Off C t) :
    (step S C s t r d).map bareS = (step S C' s' t r d).map bareS := by
  -- `bareC` keeps the season bounds: `Off (bareC C) t` is `Off C t`
  have hoff' : Off (bareC C') t := hC ▸ (hoff : Off (bareC C) t)
  rw [← step_offseason_bare_normal S C s t r d hoff, ← step_offseason_bare_normal S C' s' t r d hoff',
    hC, hs]

/-! ## Non-vacuity: a concrete small city for which a pass returns (evaluated by the kernel over ℚ) -/

def exElem (horizontal : Bool) (t1 t2 : ℚ) : Elem ℚ :=
  { horizontal := horizontal, albedo := 1 / 5, emissivity := 9 / 10, vegcoverage := 1 / 10,
    roadCover := none, layers := [⟨1 / 10, 1, 1000000, t1⟩, ⟨1 / 5, 3 / 2, 1500000, t2⟩], solRec := 0,
    infra := 0, aeroCond := 0, solAbs := 0, lat := 0, sens := 0, flux := 0, tExt := 293, tInt := 293 }

def exWeek (x : ℚ) : List (List ℚ) := List.replicate 3 (List.replicate 24 x)

def exCfg : Cfg ℚ :=
  { par := { dayBLHeight := 1000, windHeight := 10, circCoeff := 6 / 5, dayThreshold := 200,
             treeFLat := 7 / 10, grassFLat := 1 / 2, vegAlbedo := 1 / 4, vegStart := 4, vegEnd := 10,
             nightSetStart := 18, nightSetEnd := 8, windMin := 1, exCoeff := 1, g := 981 / 100,
             cp := 1004, vk := 2 / 5, r := 287, lv := 2560000, waterDens := 1000 },
    dt := 300, inobis := inobis, lat := 1, lon := 104, gmt := 8, sigma := 567 / 10000000000,
    sensanth := 20, schtraffic := exWeek (1 / 2), sensocc := 100, latfocc := 3 / 10,
    radflight := 7 / 10, radfequip := 1 / 2,
    sch := [{ elec := exWeek (1 / 2), gas := exWeek (1 / 2), light := exWeek (1 / 2),
              occ := exWeek (1 / 2), cool := exWeek 24, heat := exWeek 20, swh := exWeek (1 / 2),
              qElec := 10, qGas := 1, qLight := 10, nOcc := 1 / 20, vent := 1 / 1000, vSwh := 1 / 2 }],
    bldHeight := 10, bldDensity := 1 / 2, verToHor := 4 / 5, treeCoverage := 1 / 10, vegcover := 1 / 5,
    roadShad := 1 / 5, canAspect := 6 / 5, roadConf := 1 / 2, wallConf := 1 / 4, facArea := 1000,
    roadArea := 500, roofArea := 625, z0u := 3 / 2, lDisp := 7, albWall := 1 / 5, hMix := 1,
    latAnthrop := none, nzref := 2, nzfor := 1, z := [10, 70, 160], dz := [20, 100, 80],
    z0r := 1 / 100, disp := 1 / 20, ublDayBLHeight := 1000, ublNightBLHeight := 50,
    orthLength := 1000, urbArea := 1000000, perimeter := 4000, paralLength := 250,
    charLength := 1000, nightCount := some 4 }

def exState : State ℚ :=
  { forc := ⟨0, 0, 0, 0, 0, 0, 0, 0, 0, 0, 0, 0⟩,
    ucm := { road := { exElem true 302 300 with roadCover := some (1 / 10, 1 / 10) }, canTemp := 301,
             roadTemp := 302, canHum := 1 / 100, canWind := 2, ustar := 0, ustarMod := 0, uExch := 0,
             turbU := 0, turbV := 0, turbW := 0, sensHeat := 50, latHeat := none, windProf := [],
             sensAnthrop := 0, treeSensHeat := 0, treeLatHeat := 0, solRecRoof := 0, solRecRoad := 0,
             solRecWall := 0, qRoof := 0, qWall := 0, qWindow := 0, qRoad := 0, qHvac := 0,
             qTraffic := 0, qUbl := 0, qVent := 0, elecTotal := 0, gasTotal := 0, roofTemp := 0,
             wallTemp := 0, canRHum := none, tdp := none },
    rural := exElem true 300 299,
    blds := [{ frac := 1, flArea := 1000, floorHeight := 3, infil := 1 / 2, glazingRatio := 2 / 5,
               uValue := 3, shgc := 1 / 2, cond := .air, copAdj := 3, coolcap := 200, heateff := 4 / 5,
               heatCap := 200, mass := exElem true 299 299, wall := exElem false 301 299,
               roof := exElem true 302 300, elec := 0, light := 0, nocc := 0, qocc := 0, swh := 0,
               gas := 0, tWallex := 293, tWallin := 293, tRoofex := 293, tRoofin := 293,
               elecTotal := 0, coolSetDay := 297, coolSetNight := 297, heatSetDay := 293,
               heatSetNight := 293, vent := 0, intHeatDay := 0, intHeatNight := 0, intHeatFRad := 0,
               intHeatFLat := 0, indoorTemp := 298, indoorHum := 1 / 100, latWaste := none,
               out := none }],
    ubl := { ublTemp := 300, cells := [300, 300, 300, 300], advHeat := 0, sensHeat := 0 },
    rsm := { st := ⟨[299, 301], [101300, 101250], [299, 301], [1, 1], [1, 1, 1], [1, 1]⟩,
             ublPres := 0, dlu := [], dld := [] } }

/-- Noon of a Tuesday in June, sun up, record step. -/
def exTrace : StepTrace :=
  { it := 1, row := 0, secDay := 43200, hourDay := 12, month := 6, day := 3, julian := 153,
    dayType := 1, nBefore := 0, recorded := true, monthBefore := 6 }

def exRow : FRow ℚ :=
  { infra := 400, wind := 1 / 2, uDir := 90, hum := 3 / 200, pres := 101325, temp := 303, rHum := 60,
    prec := 0, dif := 150, dir := 500 }

/-- The pass returns; the building cools; the wind is raised to `windMin`; the canyon moisture is the
    row's; the record is defined; in June the vegetation releases heat (so the vegetation data matter in
    season). -/
example : (match step stubQ exCfg exState exTrace exRow ⟨299, 298⟩ with
    | .ok s' => decide (s'.forc.wind = 1) && decide (s'.ucm.canHum = 3 / 200) &&
        s'.ucm.tdp.isSome && s'.blds.length == 1 && decide (s'.ucm.treeSensHeat ≠ 0) &&
        (s'.blds.all fun b => match b.out with
          | some o => decide (0 < o.Qhvac) && decide (o.Qheat = 0)
          | none => false)
    | .error _ => false) = true := by
  decide +kernel

/-- The same city on a January noon: the hypothesis of `step_offseason_bare` holds, the pass returns,
    and no vegetation heat is released. -/
example : Off exCfg { exTrace with month := 1, day := 7, julian := 6 } ∧
    (match step stubQ exCfg exState { exTrace with month := 1, day := 7, julian := 6 } exRow ⟨299, 298⟩ with
    | .ok s' => decide (s'.ucm.treeSensHeat = 0) && decide (s'.ucm.treeLatHeat = 0)
    | .error _ => false) = true := by
  refine ⟨by unfold Off; decide, ?_⟩
  decide +kernel

end Uwg.StepProps

