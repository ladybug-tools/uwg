/-
C15, inputs — where the weight hypotheses of the air-node theorems come from.

`Props/C15.lean` proves fixed point / range / monotonicity of the three air-node updates under
hypotheses on their inputs: `uExch ≥ 0`, `aeroCond ≥ 0`, densities ≥ 0, areas ≥ 0, rural wind
profile ≥ 0, and (night boundary layer) loop count = number of cells. This file proves those
hypotheses for the values the code itself produces (`Model/UrbFlux.lean`: the tail of `urbflux`,
the head of `Element.SurfFlux`, `UCMDef.__init__`, `UBLDef.__init__`, the wind-profile loop of
`RSMDef.vdm`; the areas of `UCMDef.__init__` are `Canyon.ucmGeometry`), and says exactly what is
left as a hypothesis.

Hypotheses on the libm symbols are explicit. Those on the power function and the square root
(`x ** (1/3.) ≥ 0` and `x ** (-1/2.) ≥ 0` for `x ≥ 0`, `0 < sqrt d < 1` for `0 < d < 1`) are
discharged for the real functions in `uExch_nonneg_real` and `areas_pos_real`. That on the
logarithm (`log x ≥ 0` for `x ≥ 1`) stays a hypothesis of `rsmWind_nonneg` and
`rsm_windProf_nonneg`: `log_nonneg_real` only shows that the real logarithm meets it.
-/
import UwgVerif.Model.UrbFlux
import UwgVerif.Props.C15
import UwgVerif.Props.C13
import Mathlib.Algebra.Order.Floor.Semifield

namespace Uwg.C15
open Uwg.Air Uwg.Urb
variable {K : Type} [Field K] [LinearOrder K] [IsStrictOrderedRing K]

/-! ## Kahan sums of `urbflux` -/

/-- The compensated summation loop of `urbflux` returns, in exact arithmetic, the plain sum:
    every compensation term `(t - s) - y` with `t = s + y` is zero. -/
theorem kahan_exact (s c : K) (ys : List K) : kahan s c ys = s - c + listSum ys := by
  induction ys generalizing s c with
  | nil => simp [kahan, listSum]
  | cons y ys ih => simp only [kahan, ih, listSum]; ring

/-- `forDens`, `intAdv1`, `intAdv2` start from `0.0` with compensation `0.0`. -/
theorem kahan_zero (ys : List K) : kahan 0 0 ys = listSum ys := by
  rw [kahan_exact]; ring

/-! ## Air density, convection coefficient -/

theorem airDensDen_pos {T hum : K} (hT : 0 < T) (hq : 0 ≤ hum) : 0 < airDensDen T hum := by
  unfold airDensDen; positivity

/-- Positive pressure and temperature, non-negative humidity ⇒ the air density
    `pres / (1000·0.287042·T·(1 + 1.607858·hum))` of `SurfFlux`, `urbflux` and `UCModel` is
    positive (and its denominator is, so no ZeroDivisionError). -/
theorem dens_pos (pres T hum : K) (hp : 0 < pres) (hT : 0 < T) (hq : 0 ≤ hum) :
    0 < airDensDen T hum ∧ 0 < airDens pres T hum :=
  ⟨airDensDen_pos hT hq, div_pos hp (airDensDen_pos hT hq)⟩

theorem ucm_dens_eq (u : UcmIn K) :
    Air.dens u = airDens u.pres u.canTemp u.canHum ∧
    Air.densUbl u = airDens u.pres u.tUbl u.forcHum := ⟨rfl, rfl⟩

/-- For a non-negative reference wind the convection coefficient
    `5.8 + 3.7·windRef` is at least 5.8, in particular positive. -/
theorem aeroCond_pos (w : K) (hw : 0 ≤ w) : 0 < aeroCond w ∧ 58 / 10 ≤ aeroCond w := by
  have h := mul_nonneg (by norm_num : (0 : K) ≤ 37 / 10) hw
  exact ⟨add_pos_of_pos_of_nonneg (by norm_num) h, le_add_of_nonneg_right h⟩

/-- For positive pressure and temperature, non-negative humidity and reference wind the head of
    `Element.SurfFlux` returns (no ZeroDivisionError), with positive density and convection
    coefficient. -/
theorem surfHead_ok (pres T hum w : K) (hp : 0 < pres) (hT : 0 < T) (hq : 0 ≤ hum) (hw : 0 ≤ w) :
    ∃ d a, surfHead pres T hum w = .ok (d, a) ∧ 0 < d ∧ 0 < a := by
  obtain ⟨h1, h2⟩ := dens_pos pres T hum hp hT hq
  refine ⟨airDens pres T hum, aeroCond w, ?_, h2, (aeroCond_pos w hw).1⟩
  unfold surfHead; rw [if_neg h1.ne']

/-! ## Friction and exchange velocities (`urbflux`) -/
section urb
variable (S : Sym K) (x : UrbIn K)

/-- The modified friction velocity `max(ustar, wstar)` is at least the
    convective scaling velocity and at least the friction velocity. -/
theorem ustarMod_ge_wstar : wstar S x ≤ ustarMod S x ∧ ustar S x ≤ ustarMod S x :=
  ⟨le_max_right _ _, le_max_left _ _⟩

/-- no hypothesis on the heat flux: the code takes `max(sensHeat, 0.0)` -/
theorem wstarBase_nonneg (hg : 0 ≤ x.g) (hz : 0 ≤ zref x) (hd : 0 ≤ Urb.dens x) (hcp : 0 ≤ x.cp)
    (hT : 0 ≤ x.canTemp) : 0 ≤ wstarBase x := by
  unfold wstarBase
  exact div_nonneg (div_nonneg (div_nonneg (mul_nonneg (mul_nonneg hg (le_max_right _ _)) hz) hd)
    hcp) hT

/-- If `x ** (1/3.)` is non-negative for non-negative `x` (hypothesis on the
    symbol, true of the real power) and `exCoeff ≥ 0`, then `wstar ≥ 0`, hence
    `ustarMod = max(ustar, wstar) ≥ 0` and `uExch = exCoeff·ustarMod ≥ 0` — whatever the sign of
    `ustar` (i.e. of the logarithms in `windUrb`). -/
theorem uExch_nonneg (hS : ∀ a : K, 0 ≤ a → 0 ≤ S.rpow a (1 / 3)) (hex : 0 ≤ x.exCoeff)
    (hg : 0 ≤ x.g) (hz : 0 ≤ zref x) (hd : 0 ≤ Urb.dens x) (hcp : 0 ≤ x.cp) (hT : 0 ≤ x.canTemp) :
    0 ≤ wstar S x ∧ 0 ≤ ustarMod S x ∧ 0 ≤ uExch S x ∧ 0 ≤ (urbCore S x).uExch := by
  have hw : 0 ≤ wstar S x := hS _ (wstarBase_nonneg x hg hz hd hcp hT)
  have hm : 0 ≤ ustarMod S x := le_trans hw (ustarMod_ge_wstar S x).1
  exact ⟨hw, hm, mul_nonneg hex hm, mul_nonneg hex hm⟩

/-- With `x ** (-1/2.) ≥ 0` for `x ≥ 0` as well, the canyon wind speed — the
    reference wind of the *next* step's `SurfFlux` on road and walls — and the turbulent
    velocities are non-negative. -/
theorem canWind_nonneg (hS : ∀ a : K, 0 ≤ a → 0 ≤ S.rpow a (1 / 3))
    (hS2 : ∀ a : K, 0 ≤ a → 0 ≤ S.rpow a (-1 / 2)) (hv : 0 ≤ x.verToHor)
    (hg : 0 ≤ x.g) (hz : 0 ≤ zref x) (hd : 0 ≤ Urb.dens x) (hcp : 0 ≤ x.cp) (hT : 0 ≤ x.canTemp) :
    0 ≤ (urbCore S x).canWind ∧ 0 ≤ (urbCore S x).turbU ∧ 0 ≤ (urbCore S x).turbV ∧
      0 ≤ (urbCore S x).turbW := by
  have hw : 0 ≤ wstar S x := hS _ (wstarBase_nonneg x hg hz hd hcp hT)
  have hm : 0 ≤ ustarMod S x := le_trans hw (ustarMod_ge_wstar S x).1
  have h8 : 0 ≤ x.verToHor / 8 := by positivity
  refine ⟨mul_nonneg hm (hS2 _ h8), ?_, ?_, ?_⟩ <;> exact mul_nonneg (by norm_num) hm

/-- A normal return of the tail of `urbflux` yields `urbCore`; the base of the cube root was
    non-negative and the profile lists were long enough for the three sums (`sumsWf`). -/
theorem urbTail_ok (o : UrbOut K) (h : urbTail S x = .ok o) :
    o = urbCore S x ∧ 0 ≤ wstarBase x ∧ sumsWf x := by
  unfold urbTail at h
  split at h
  · simp at h
  · rename_i hg
    simp only [Except.ok.injEq] at h
    unfold urbGuards at hg
    rw [List.findSome?_eq_none_iff] at hg
    have h1 := hg (chk (wstarBase x < 0) .type) (by simp [urbGuardList])
    have h2 := hg (chk (¬ sumsWf x) .index) (by simp [urbGuardList])
    exact ⟨h.symm, by simpa [chk] using h1, by simpa [chk] using h2⟩

end urb

/-- `uExch_nonneg` and the `canWind` part of `canWind_nonneg` for the real power function: no
    hypothesis on the symbol is left. The disjunct `x.verToHor < 0` is the hypothesis
    `0 ≤ verToHor` of `canWind_nonneg` moved to the conclusion; only `canWind` needs it. -/
theorem uExch_nonneg_real (x : UrbIn ℝ) (hex : 0 ≤ x.exCoeff) (hg : 0 ≤ x.g) (hz : 0 ≤ zref x)
    (hd : 0 ≤ Urb.dens x) (hcp : 0 ≤ x.cp) (hT : 0 ≤ x.canTemp) :
    0 ≤ uExch realSym x ∧ 0 ≤ (urbCore realSym x).canWind ∨ x.verToHor < 0 := by
  by_cases hv : 0 ≤ x.verToHor
  · left
    have hS : ∀ a : ℝ, 0 ≤ a → 0 ≤ realSym.rpow a (1 / 3) := fun a ha => Real.rpow_nonneg ha _
    have hS2 : ∀ a : ℝ, 0 ≤ a → 0 ≤ realSym.rpow a (-1 / 2) := fun a ha => Real.rpow_nonneg ha _
    exact ⟨(uExch_nonneg realSym x hS hex hg hz hd hcp hT).2.2.1,
      (canWind_nonneg realSym x hS hS2 hv hg hz hd hcp hT).1⟩
  · right; exact not_le.mp hv

/-! ## `UCMDef.__init__`: areas, shadowing, roughness and displacement lengths -/

/-- Building density in (0,1), positive height and facade ratio, tree coverage ≥ 0,
    and `0 < sqrt(bldDensity) < 1` (hypothesis on the symbol; true of the real root *and* of the
    rational stub `(d+1)/2`): whenever the constructor's geometry statements return, road, roof
    and facade areas are positive and `0 ≤ roadShad ≤ 1`. -/
theorem areas_pos (S : Sym K) (h dens vth tree veg : K) (g : Canyon.Geom K)
    (hgeo : Canyon.ucmGeometry S h dens vth tree veg = .ok g)
    (hh : 0 < h) (hd0 : 0 < dens) (hd1 : dens < 1) (hv : 0 < vth) (ht : 0 ≤ tree)
    (hs0 : 0 < S.sqrt dens) (hs1 : S.sqrt dens < 1) :
    0 < g.roadArea ∧ 0 < g.roofArea ∧ 0 < g.facArea ∧ 0 ≤ g.roadShad ∧ g.roadShad ≤ 1 := by
  obtain ⟨-, -, hshad, hbw, -, -, -, -, hfac, hroad, hroof⟩ := Canyon.ucmGeometry_ok hgeo
  have hw : 0 < g.bldWidth := by rw [hbw]; positivity
  -- `0 < r < 1`, so the building width is smaller than `bldWidth / r`, the side of the site
  have hlt : g.bldWidth < g.bldWidth / S.sqrt dens :=
    (lt_div_iff₀ hs0).2 (mul_lt_of_lt_one_right hw hs1)
  refine ⟨?_, hroof ▸ pow_pos hw 2, hfac ▸ mul_pos (mul_pos (by norm_num) hw) hh, ?_, ?_⟩
  · rw [hroad, sq, sub_pos]; exact mul_self_lt_mul_self hw.le hlt
  · rw [hshad]; exact le_min (div_nonneg ht (sub_nonneg.2 hd1.le)) zero_le_one
  · rw [hshad]; exact min_le_right _ _

/-- Whenever the constructor's geometry statements return — for *any* value
    `r` the symbol `sqrt` gives for the density — the roof takes the fraction `r²` of the site
    (`roofArea + roadArea`), and `facArea · bldDensity = verToHor · roofArea`. With the true root
    (`r² = bldDensity`) this reads: `roofArea = bldDensity · site`, `facArea = verToHor · site` —
    the two defining ratios of the canyon are reproduced by the three areas. -/
theorem areas_partition (S : Sym K) (h dens vth tree veg : K) (g : Canyon.Geom K)
    (hgeo : Canyon.ucmGeometry S h dens vth tree veg = .ok g) :
    g.roofArea = S.sqrt dens ^ 2 * (g.roadArea + g.roofArea) ∧
    g.facArea * dens = vth * g.roofArea ∧
    (S.sqrt dens * S.sqrt dens = dens → g.roofArea = dens * (g.roadArea + g.roofArea) ∧
      g.facArea = vth * (g.roadArea + g.roofArea)) := by
  obtain ⟨⟨-, hv, -, hr, -, -⟩, -, -, hbw, -, -, -, -, hfac, hroad, hroof⟩ :=
    Canyon.ucmGeometry_ok hgeo
  -- with `w` the building width: roof `w²`, site `(w/r)²`, and `vth·w = 4·h·dens`
  have e1 : g.roofArea = S.sqrt dens ^ 2 * (g.roadArea + g.roofArea) := by
    rw [hroad, hroof]; field_simp; ring
  have e2 : g.facArea * dens = vth * g.roofArea := by
    rw [hfac, hroof, hbw]; field_simp
  refine ⟨e1, e2, fun hd => ?_⟩
  have hd0 : dens ≠ 0 := fun h0 => hr (mul_self_eq_zero.mp (hd.trans h0))
  rw [sq, hd] at e1
  exact ⟨e1, mul_right_cancel₀ hd0 (by rw [e2, mul_right_comm, mul_assoc, ← e1])⟩

/-- `areas_pos` over the reals: the constructor returns and the areas are positive — nothing is
    left as a hypothesis on `sqrt`. -/
theorem areas_pos_real (h dens vth tree veg : ℝ)
    (hh : 0 < h) (hd0 : 0 < dens) (hd1 : dens < 1) (hv : 0 < vth) (ht : 0 ≤ tree) :
    ∃ g, Canyon.ucmGeometry realSym h dens vth tree veg = .ok g ∧
      0 < g.roadArea ∧ 0 < g.roofArea ∧ 0 < g.facArea ∧ 0 ≤ g.roadShad ∧ g.roadShad ≤ 1 := by
  obtain ⟨g, hg, _⟩ := C13.geometry_positive_real h dens vth tree veg hh hd0 hd1 hv
  refine ⟨g, hg, areas_pos realSym h dens vth tree veg g hg hh hd0 hd1 hv ht
    (Real.sqrt_pos.mpr hd0) ?_⟩
  show Real.sqrt dens < 1
  rw [Real.sqrt_lt' one_pos]; simpa using hd1

theorem frontDens_nonneg {v : K} (hv : 0 ≤ v) : 0 ≤ frontDens v := div_nonneg hv (by norm_num)

theorem frontDens_pos {v : K} (hv : 0 < v) : 0 < frontDens v := div_pos hv (by norm_num)

theorem z0u_eq_mul (h v : K) (hv : 0 ≤ v) :
    ∃ k, z0u h v = k * h ∧ 0 ≤ k ∧ k ≤ 15 / 100 ∧ (0 < v → 0 < k) := by
  unfold z0u
  split_ifs with c
  · exact ⟨_, rfl, frontDens_nonneg hv, c.le, frontDens_pos⟩
  · exact ⟨_, rfl, by norm_num, le_rfl, fun _ => by norm_num⟩

theorem affine_piece {a b c d f B : K} (ha : 0 < a) (hb : 0 < b) (hc : c ≤ f) (hd : f < d)
    (hB : a + b * (d - c) ≤ B) : 0 < a + b * (f - c) ∧ a + b * (f - c) < B :=
  ⟨add_pos_of_pos_of_nonneg ha (mul_nonneg hb.le (sub_nonneg.2 hc)),
   (add_lt_add_right (mul_lt_mul_of_pos_left (sub_lt_sub_right hd c) hb) a).trans_le hB⟩

theorem lDisp_eq_mul (h v : K) (hv : 0 ≤ v) :
    ∃ k, lDisp h v = k * h ∧ 0 ≤ k ∧ k < 399 / 400 ∧ (0 < v → 0 < k) := by
  unfold lDisp
  split_ifs with c1 c2 c3
  · exact ⟨_, rfl, mul_nonneg (by norm_num) (frontDens_nonneg hv),
      (mul_lt_mul_of_pos_left c1 (by norm_num)).trans (by norm_num),
      fun h0 => mul_pos (by norm_num) (frontDens_pos h0)⟩
  · obtain ⟨hk, hB⟩ := affine_piece (a := 15 / 100) (b := 55 / 10) (B := 399 / 400)
      (by norm_num) (by norm_num) (not_lt.1 c1) c2 (by norm_num)
    exact ⟨_, rfl, hk.le, hB, fun _ => hk⟩
  · obtain ⟨hk, hB⟩ := affine_piece (a := 7 / 10) (b := 35 / 100) (B := 399 / 400)
      (by norm_num) (by norm_num) (not_lt.1 c2) c3 (by norm_num)
    exact ⟨_, rfl, hk.le, hB, fun _ => hk⟩
  · exact ⟨_, rfl, by norm_num, by norm_num, fun _ => by norm_num⟩

/-- For a positive building height and a non-negative facade ratio:
    `0 ≤ z0u ≤ 0.15·h` and `0 ≤ l_disp < 0.9975·h < h`; both are positive when the facade ratio
    is. (`l_disp` is *not* monotone in the facade ratio: it drops from just under `0.9975·h` to
    `0.5·h` at `frontDens = 1`.) -/
theorem z0u_ldisp_bounds (h v : K) (hh : 0 < h) (hv : 0 ≤ v) :
    0 ≤ z0u h v ∧ z0u h v ≤ 15 / 100 * h ∧ 0 ≤ lDisp h v ∧ lDisp h v < 399 / 400 * h ∧
    lDisp h v < h ∧ (0 < v → 0 < z0u h v ∧ 0 < lDisp h v) := by
  obtain ⟨k, ek, k0, k1, kp⟩ := z0u_eq_mul h v hv
  obtain ⟨l, el, l0, l1, lp⟩ := lDisp_eq_mul h v hv
  rw [ek, el]
  exact ⟨mul_nonneg k0 hh.le, mul_le_mul_of_nonneg_right k1 hh.le, mul_nonneg l0 hh.le,
    mul_lt_mul_of_pos_right l1 hh, mul_lt_of_lt_one_left hh (l1.trans (by norm_num)),
    fun h0 => ⟨mul_pos (kp h0) hh, mul_pos (lp h0) hh⟩⟩

/-- Consequence for the logarithms of `urbflux`: with `z0u`, `l_disp` from the constructor
    (`h > 0`, facade ratio > 0) the arguments `(2h − l_disp)/z0u` and `2h/z0u` exceed 1 and
    `(z + h − l_disp)/z0u` is positive for every level `z ≥ 0`: no ValueError from these. -/
theorem urban_log_args (h v : K) (hh : 0 < h) (hv : 0 < v) :
    1 < (2 * h - lDisp h v) / z0u h v ∧ 1 < 2 * h / z0u h v ∧
    ∀ z : K, 0 ≤ z → 0 < (z + h - lDisp h v) / z0u h v := by
  obtain ⟨_, b2, _, _, b5, b6⟩ := z0u_ldisp_bounds h v hh hv.le
  obtain ⟨z0, _⟩ := b6 hv
  have hz : z0u h v < h := b2.trans_lt (mul_lt_of_lt_one_left hh (by norm_num))
  refine ⟨(one_lt_div z0).2 ?_, (one_lt_div z0).2 (hz.trans (lt_two_mul_self hh)),
    fun z hz' => div_pos (sub_pos.2 (b5.trans_le (le_add_of_nonneg_left hz'))) z0⟩
  rw [lt_sub_iff_add_lt, two_mul]
  exact add_lt_add hz b5

/-! ## Rural wind profile (`RSMDef.vdm`) -/

/-- One level of the rural wind profile is non-negative when `ustarRur / vk ≥ 0`, `log x ≥ 0`
    for `x ≥ 1` (hypothesis on the symbol) and the level is either caught by the ValueError
    branch (`(z − disp)/z0r ≤ 0`) or lies at least `z0r` above the displacement height.
    For `0 < (z − disp)/z0r < 1` the logarithm — and with it the wind — is negative:
    `rsmWind_neg_real`. -/
theorem rsmWind_nonneg (S : Sym K) (u vk disp z0r z : K) (hS : ∀ a : K, 1 ≤ a → 0 ≤ S.log a)
    (hu : 0 ≤ u / vk) (hz : (z - disp) / z0r ≤ 0 ∨ 1 ≤ (z - disp) / z0r) :
    0 ≤ rsmWind S u vk disp z0r z := by
  unfold rsmWind
  split_ifs with c
  · exact le_rfl
  · rcases hz with hz | hz
    · exact absurd hz c
    · exact mul_nonneg hu (hS _ hz)

/-- If the wind-profile loop of `vdm` returns, the profile keeps its
    length, and every entry is non-negative under the hypotheses of `rsmWind_nonneg` on the
    `nzref` levels (entries beyond `nzref`, which the loop does not touch, assumed ≥ 0). This is
    the hypothesis `∀ x ∈ windProf, 0 ≤ x` of `advCoef1_bounds` / `night_convex`. -/
theorem rsm_windProf_nonneg (S : Sym K) (u vk disp z0r : K) (hS : ∀ a : K, 1 ≤ a → 0 ≤ S.log a)
    (hu : 0 ≤ u / vk) : ∀ (n : Nat) (zs old out : List K),
    rsmWindLoop S u vk disp z0r n zs old = .ok out →
    (∀ z ∈ zs.take n, (z - disp) / z0r ≤ 0 ∨ 1 ≤ (z - disp) / z0r) →
    (∀ w ∈ old.drop n, 0 ≤ w) →
    out.length = old.length ∧ ∀ w ∈ out, 0 ≤ w
  | 0, zs, old, out, h, _, ho => by
    simp only [rsmWindLoop, Except.ok.injEq] at h
    subst h
    exact ⟨rfl, ho⟩
  | n + 1, [], old, out, h, _, _ => by
    simp only [rsmWindLoop] at h
    split_ifs at h
  | n + 1, z :: zs', [], out, h, _, _ => by
    simp only [rsmWindLoop] at h
    split_ifs at h
  | n + 1, z :: zs', o :: old', out, h, hz, ho => by
    simp only [rsmWindLoop] at h
    split_ifs at h
    split at h
    · simp at h
    · rename_i rest hrest
      simp only [Except.ok.injEq] at h
      subst h
      obtain ⟨hz0, hzs⟩ := List.forall_mem_cons.1 hz
      obtain ⟨il, ih⟩ := rsm_windProf_nonneg S u vk disp z0r hS hu n zs' old' rest hrest hzs ho
      exact ⟨congrArg Nat.succ il,
        List.forall_mem_cons.2 ⟨rsmWind_nonneg S u vk disp z0r z hS hu hz0, ih⟩⟩

/-- the real logarithm satisfies the hypothesis on the symbol -/
theorem log_nonneg_real : ∀ a : ℝ, 1 ≤ a → 0 ≤ realSym.log a := fun _ ha => Real.log_nonneg ha

/-! ## `UBLDef.__init__`: number of cells, `paralLength`, and the loop bound of `nightforc` -/

/-- `|x − round(x)| ≤ 1/2`. -/
theorem pyRound_bounds (x : ℚ) :
    2 * x - 1 ≤ 2 * (pyRound x : ℚ) ∧ 2 * (pyRound x : ℚ) ≤ 2 * x + 1 := by
  have hd : (0 : ℤ) < (x.den : ℤ) := by exact_mod_cast x.den_pos
  have e := Int.mul_ediv_add_emod x.num (x.den : ℤ)
  have r0 := Int.emod_nonneg x.num hd.ne'
  have r1 := Int.emod_lt_of_pos x.num hd
  -- in integers, `num = den·f + r` with `0 ≤ r < den`, and whichever of `f`, `f + 1` is picked:
  have hz : 2 * x.num - x.den ≤ 2 * pyRound x * x.den ∧
      2 * pyRound x * x.den ≤ 2 * x.num + x.den := by
    unfold pyRound
    simp only
    split_ifs <;> constructor <;> linarith
  have hdq : (0 : ℚ) < x.den := by exact_mod_cast x.den_pos
  have hq : (2 * x * x.den - x.den : ℚ) ≤ 2 * pyRound x * x.den ∧
      (2 * pyRound x * x.den : ℚ) ≤ 2 * x * x.den + x.den := by
    rw [mul_assoc 2 x, Rat.mul_den_eq_num]; exact_mod_cast hz
  exact ⟨le_of_mul_le_mul_right (by linarith only [hq.1]) hdq,
    le_of_mul_le_mul_right (by linarith only [hq.2]) hdq⟩

/-- `int(x)` of a non-negative rational is its floor -/
theorem tdiv_num_den {x : ℚ} (hx : 0 ≤ x) : x.num.tdiv (x.den : ℤ) = (⌊x⌋₊ : ℤ) := by
  have hn : 0 ≤ x.num := Rat.num_nonneg.mpr hx
  rw [Int.tdiv_eq_ediv_of_nonneg hn, ← Rat.floor_def', Int.natCast_floor_eq_floor hx]

/-- The loop bound of `nightforc` for `paralLength = charLength / n`:
    `int(L) // int(L/n) = ⌊L⌋ // (⌊L⌋ // n)` (ZeroDivisionError when `⌊L⌋ < n`). -/
theorem loopCount_div (L : ℚ) (n : ℕ) (hL : 0 ≤ L) :
    loopCount L (L / n) =
      if ⌊L⌋₊ / n = 0 then none else some (⌊L⌋₊ / (⌊L⌋₊ / n)) := by
  have hp : 0 ≤ L / (n : ℚ) := by positivity
  unfold loopCount
  simp only
  rw [tdiv_num_den hL, tdiv_num_den hp, Nat.floor_div_natCast]
  by_cases hq : ⌊L⌋₊ / n = 0
  · rw [if_pos (by exact_mod_cast hq), if_pos hq]
  · rw [if_neg (by exact_mod_cast hq), if_neg hq]
    congr 1
    rw [Int.fdiv_eq_ediv_of_nonneg _ (by positivity)]
    exact_mod_cast Int.toNat_natCast _

/-- `A = int(charLength)`, `n` cells, `A / n = int(paralLength)`: when the loop bound of `nightforc` is `n`. -/
theorem nat_count_iff {A n : ℕ} (hq : 1 ≤ A / n) :
    A / (A / n) = n ↔ A % n < A / n := by
  have e := Nat.div_add_mod A n
  rw [Nat.div_eq_iff (by omega)]
  generalize A / n = q at *
  generalize A % n = s at *
  generalize n * q = m at *
  omega

/-- The loop bound of `nightforc`, recovered from the truncated cell length, is at least the number of cells. -/
theorem nat_count_ge {A n : ℕ} (hq : 1 ≤ A / n) : n ≤ A / (A / n) := by
  rw [Nat.le_div_iff_mul_le (by omega)]
  exact Nat.mul_div_le A n

theorem pyRound_pos {x : ℚ} (hx : 1 ≤ x) : 1 ≤ pyRound x := by
  have h2 : (1 : ℚ) ≤ 2 * (pyRound x : ℚ) := by linarith only [(pyRound_bounds x).1, hx]
  have h4 : (1 : ℤ) ≤ 2 * pyRound x := by exact_mod_cast h2
  omega

theorem round_nat_div {A M n : ℕ} (hM : 0 < M) (h : pyRound ((A : ℚ) / M) = n) :
    2 * n * M ≤ 2 * A + M ∧ 2 * A ≤ 2 * n * M + M := by
  have hMq : (0 : ℚ) < M := by exact_mod_cast hM
  have hb := pyRound_bounds ((A : ℚ) / M)
  rw [h, Int.cast_natCast] at hb
  have e : (A : ℚ) / M * M = A := div_mul_cancel₀ _ hMq.ne'
  have h1 := mul_le_mul_of_nonneg_right hb.1 hMq.le
  have h2 := mul_le_mul_of_nonneg_right hb.2 hMq.le
  have : (2 * n * M : ℚ) ≤ 2 * A + M ∧ (2 * A : ℚ) ≤ 2 * n * M + M :=
    ⟨by linarith only [h2, e], by linarith only [h1, e]⟩
  exact_mod_cast this

/-- For `charLength = L ≥ 1` and `maxdx = m > 0`, **in exact arithmetic**, the
    constructor returns; it creates `numdx = round(L / min(L, m)) ≥ 1` cells;
    `paralLength = L / numdx > 0`, so `charLength = numdx · paralLength`; and the loop bound of
    `nightforc`, `int(L) // int(paralLength)`, equals the number of cells **iff**
    `⌊L⌋ // numdx ≥ 1` and `⌊L⌋ mod numdx < ⌊L⌋ // numdx`. When `⌊L⌋ // numdx ≥ 1` the loop
    bound is never *smaller* than the number of cells (so a mismatch is always an IndexError in
    `nightforc`, `night_partial_count`, never a silently shortened loop); when
    `⌊L⌋ // numdx = 0` it is a ZeroDivisionError. -/
theorem cells_count (L m : ℚ) (hL : 1 ≤ L) (hm : 0 < m) :
    ∃ g, ublInit L m = .ok g ∧ 1 ≤ g.ncells ∧ g.numdx = (g.ncells : ℤ) ∧
      g.numdx = pyRound (L / min L m) ∧
      g.paralLength = L / (g.ncells : ℚ) ∧ L = (g.ncells : ℚ) * g.paralLength ∧
      0 < g.paralLength ∧
      (loopCount L g.paralLength = some g.ncells ↔
        (1 ≤ ⌊L⌋₊ / g.ncells ∧ ⌊L⌋₊ % g.ncells < ⌊L⌋₊ / g.ncells)) ∧
      (1 ≤ ⌊L⌋₊ / g.ncells → ∃ k, loopCount L g.paralLength = some k ∧ g.ncells ≤ k) ∧
      (⌊L⌋₊ / g.ncells = 0 → loopCount L g.paralLength = none) := by
  have h0 : 0 < min L m := lt_min (zero_lt_one.trans_le hL) hm
  -- the ratio that is rounded is ≥ 1
  have hr := pyRound_pos ((le_div_iff₀ h0).2 ((one_mul _).le.trans (min_le_left L m)))
  obtain ⟨n, hn⟩ := Int.eq_ofNat_of_zero_le (zero_le_one.trans hr)
  have hn1 : 1 ≤ n := by omega
  have hnq : (0 : ℚ) < n := by exact_mod_cast hn1
  have hg : ublInit L m = .ok
      { perimeter := 4 * L, urbArea := L ^ 2, orthLength := L, numdx := n, paralLength := L / n,
        ncells := n } := by
    unfold ublInit
    rw [if_neg h0.ne']
    simp only [hn]
    rw [if_neg (by omega)]
    simp
  have hc := loopCount_div L n (zero_le_one.trans hL)
  have hiff : loopCount L (L / n) = some n ↔ 1 ≤ ⌊L⌋₊ / n ∧ ⌊L⌋₊ % n < ⌊L⌋₊ / n := by
    rw [hc]
    split_ifs with hq
    · simp [hq]
    · have hq1 : 1 ≤ ⌊L⌋₊ / n := Nat.pos_of_ne_zero hq
      simp only [Option.some.injEq, nat_count_iff hq1, hq1, true_and]
  have hge : 1 ≤ ⌊L⌋₊ / n → ∃ k, loopCount L (L / n) = some k ∧ n ≤ k := fun hq1 =>
    ⟨_, by rw [hc, if_neg (Nat.pos_iff_ne_zero.mp hq1)], nat_count_ge hq1⟩
  have hnone : ⌊L⌋₊ / n = 0 → loopCount L (L / n) = none := fun hq => by rw [hc, if_pos hq]
  exact ⟨_, hg, hn1, rfl, hn.symm, rfl, by field_simp, by positivity, hiff, hge, hnone⟩

/-- `cells_count` for integers `charLength = A ≥ maxdx = M ≥ 1`, stated in `ℕ`: `n = round(A / M)`
    becomes the two inequalities `|2A − 2nM| ≤ M`, and the loop count is left as it comes out.
    `cells_count_int` (also over `ℕ`) adds the explicit condition on `(A, M)` that makes it `n`. -/
theorem cells_count_nat (A M : ℕ) (hM : 1 ≤ M) (hle : M ≤ A) :
    ∃ g, ublInit (A : ℚ) (M : ℚ) = .ok g ∧ 1 ≤ g.ncells ∧
      2 * g.ncells * M ≤ 2 * A + M ∧ 2 * A ≤ 2 * g.ncells * M + M ∧
      (A : ℚ) = (g.ncells : ℚ) * g.paralLength ∧ 0 < g.paralLength ∧
      loopCount (A : ℚ) g.paralLength =
        if A / g.ncells = 0 then none else some (A / (A / g.ncells)) := by
  obtain ⟨g, hg, hn1, hnum, hround, hpar, hL, hp, _⟩ := cells_count (A : ℚ) (M : ℚ)
    (by exact_mod_cast hM.trans hle) (by exact_mod_cast hM)
  rw [min_eq_right (by exact_mod_cast hle), hnum] at hround
  obtain ⟨b1, b2⟩ := round_nat_div hM hround.symm
  refine ⟨g, hg, hn1, b1, b2, hL, hp, ?_⟩
  rw [hpar, loopCount_div _ _ (Nat.cast_nonneg A), Nat.floor_natCast]

/-- The condition of `nat_count_iff` from that of `cells_count_int`; of `n = round(A / M)` only
    `n ≤ A/M + 1/2` is used. With `n = k + 1`: `n ≤ M`, hence `k(k+1) ≤ A`, i.e. `k ≤ A / n`. Were
    `A / n ≤ A % n`, both would be `k` and `A = k(k+2)`, which forces `M = k + 1`: `A = M² − 1`. -/
theorem mod_lt_div_of_round {A M n : ℕ} (hn : 1 ≤ n) (hA1 : 1 ≤ A)
    (h1 : 2 * n * M ≤ 2 * A + M) (hA : 2 * A < 2 * M * M + M) (hne : A + 1 ≠ M * M) :
    1 ≤ A / n ∧ A % n < A / n := by
  obtain ⟨k, rfl⟩ : ∃ k, n = k + 1 := ⟨n - 1, by omega⟩
  have hnM : k + 1 ≤ M := by
    by_contra hc
    have := Nat.mul_le_mul_left (2 * M) (show M + 1 ≤ k + 1 by omega)
    linarith only [this, h1, hA]
  have hAk : k * (k + 1) ≤ A := by
    have := Nat.mul_le_mul_left (2 * k + 1) hnM
    linarith only [this, h1]
  have hqk : k ≤ A / (k + 1) := by
    rw [Nat.le_div_iff_mul_le (by omega)]; exact hAk
  have e := Nat.div_add_mod A (k + 1)
  have hs := Nat.mod_lt A (show 0 < k + 1 by omega)
  constructor
  · rcases Nat.eq_zero_or_pos k with rfl | hk
    · simpa using hA1
    · omega
  · by_contra hc
    have hq : A / (k + 1) = k := by omega
    have hs' : A % (k + 1) = k := by omega
    rw [hq, hs'] at e
    have hM2 : M ≤ k + 1 := by
      by_contra hc2
      have : k + 2 ≤ M := by omega
      have := Nat.mul_le_mul_left (2 * k + 1) this
      linarith only [this, h1, e]
    have : M = k + 1 := by omega
    subst this
    apply hne
    rw [← e]; ring

/-- The explicit condition on `(charLength, maxdx)`. For positive integers
    `charLength = A`, `maxdx = M` with `A < M² + M/2` and `A ≠ M² − 1`, the loop bound
    `int(charLength) // int(paralLength)` equals the number of cells the constructor created.
    For `M = 250` (the value uwg uses) this is every integer `1 ≤ A ≤ 62624` except `62499`. -/
theorem cells_count_int (A M : ℕ) (hA1 : 1 ≤ A) (hM : 1 ≤ M) (hA : 2 * A < 2 * M * M + M)
    (hne : A + 1 ≠ M * M) :
    ∃ g, ublInit (A : ℚ) (M : ℚ) = .ok g ∧ loopCount (A : ℚ) g.paralLength = some g.ncells ∧
      1 ≤ g.ncells ∧ (A : ℚ) = (g.ncells : ℚ) * g.paralLength ∧ 0 < g.paralLength := by
  rcases le_or_gt A M with hle | hlt
  · -- one cell: `round(A / A) = 1`
    obtain ⟨g, hg, hn1, hnum, hround, _, hL, hp, hiff, _⟩ := cells_count (A : ℚ) (M : ℚ)
      (by exact_mod_cast hA1) (by exact_mod_cast hM)
    rw [min_eq_left (by exact_mod_cast hle), div_self (by positivity)] at hround
    have h1 : g.ncells = 1 := by exact_mod_cast (hnum.symm.trans hround : (g.ncells : ℤ) = 1)
    refine ⟨g, hg, ?_, hn1, hL, hp⟩
    rw [hiff, Nat.floor_natCast, h1, Nat.div_one, Nat.mod_one]
    exact ⟨hA1, hA1⟩
  · obtain ⟨g, hg, hn1, b1, _, hL, hp, hc⟩ := cells_count_nat A M hM hlt.le
    obtain ⟨q1, q2⟩ := mod_lt_div_of_round hn1 hA1 b1 hA hne
    refine ⟨g, hg, ?_, hn1, hL, hp⟩
    rw [hc, if_neg (by omega), (nat_count_iff q1).2 q2]

/-- The exception is real: for every integer `maxdx = M ≥ 3` and `charLength = M² − 1` the
    constructor creates `M` cells but the loop bound is `M + 1` (→ IndexError in `nightforc`).
    `M = 250`: `charLength = 62499`. -/
theorem cells_count_fails (M : ℕ) (hM : 3 ≤ M) :
    ∃ g, ublInit ((M * M - 1 : ℕ) : ℚ) (M : ℚ) = .ok g ∧ g.ncells = M ∧
      loopCount ((M * M - 1 : ℕ) : ℚ) g.paralLength = some (M + 1) := by
  obtain ⟨j, rfl⟩ : ∃ j, M = j + 1 := ⟨M - 1, by omega⟩
  have hj : 2 ≤ j := by omega
  -- `A = M² − 1 = j·(j + 2)`
  have hAe : (j + 1) * (j + 1) - 1 = j * (j + 2) := by
    have : (j + 1) * (j + 1) = j * (j + 2) + 1 := by ring
    omega
  rw [hAe]
  obtain ⟨g, hg, _, b1, b2, _, _, hc⟩ := cells_count_nat (j * (j + 2)) (j + 1) j.succ_pos
    ((by omega : j + 1 ≤ 2 * (j + 2)).trans (Nat.mul_le_mul_right _ hj))
  -- `n = round(A / M) = M`, because `(2j + 1)·M < 2A < (2j + 4)·M`
  have hn : g.ncells = j + 1 := by
    have u1 : 2 * g.ncells * (j + 1) < 2 * (j + 2) * (j + 1) := by linarith only [b1]
    have u2 : (2 * j + 1) * (j + 1) < (2 * g.ncells + 1) * (j + 1) := by linarith only [b2, hj]
    have := Nat.lt_of_mul_lt_mul_right u1
    have := Nat.lt_of_mul_lt_mul_right u2
    omega
  refine ⟨g, hg, hn, ?_⟩
  -- `A // M = j` and `A // j = j + 2 = M + 1`
  rw [hc, hn, Nat.div_eq_of_lt_le (k := j) (Nat.mul_le_mul_left j (by omega)) (by linarith only []),
    if_neg (by omega), Nat.mul_div_cancel_left _ (by omega)]

theorem nightforc_returns (cells : List ℚ) (n : ℕ) (hn : n = cells.length) (h1 : 1 ≤ n)
    (csurf a1 a2 pL cL : ℚ) : ∃ t cs, nightforc cells n csurf a1 a2 pL cL = some (t, cs) := by
  match cells, hn with
  | [], hn => simp at hn; omega
  | c0 :: rest, hn =>
    unfold nightforc
    simp only
    rw [if_neg (by simp [hn])]
    exact ⟨_, _, rfl⟩

/-- For a boundary layer built by `UBLDef.__init__` from integers
    `charLength = A`, `maxdx = M` under the condition of `cells_count_int`, and any state of its
    `ncells` cells: the loop bound is the number of cells, `nightforc` returns, no cell is lost
    and the returned temperature is the arithmetic mean of the returned cells — the loop-count
    and `charLength = n·paralLength` hypotheses of `night_mean` are discharged. -/
theorem night_mean_of_constructor (A M : ℕ) (hA1 : 1 ≤ A) (hM : 1 ≤ M)
    (hA : 2 * A < 2 * M * M + M) (hne : A + 1 ≠ M * M)
    (g : UblGeom) (hg : ublInit (A : ℚ) (M : ℚ) = .ok g)
    (cells : List ℚ) (hc : cells.length = g.ncells) (csurf a1 a2 : ℚ) :
    ∃ n t cs, loopCount (A : ℚ) g.paralLength = some n ∧ n = cells.length ∧
      nightforc cells n csurf a1 a2 g.paralLength (A : ℚ) = some (t, cs) ∧
      cs.length = cells.length ∧ t = listSum cs / (cells.length : ℚ) := by
  obtain ⟨g', hg', hcount, hn1, hL, hp⟩ := cells_count_int A M hA1 hM hA hne
  rw [hg] at hg'
  simp only [Except.ok.injEq] at hg'
  subst hg'
  obtain ⟨t, cs, hnf⟩ := nightforc_returns cells g.ncells hc.symm hn1 csurf a1 a2 g.paralLength A
  obtain ⟨m1, m2⟩ := night_mean cells g.ncells csurf a1 a2 g.paralLength (A : ℚ) t cs hnf
    hc.symm hL hp.ne'
  exact ⟨g.ncells, t, cs, hcount, hc.symm, hnf, m1, by rw [m2, hc]⟩

/-- `cells_count_int` at `maxdx = 250`: every integer `charLength` from 1 to 62498 (and
    62500 … 62624). -/
theorem cells_count_250 (A : ℕ) (hA1 : 1 ≤ A) (hA : A ≤ 62624) (hne : A ≠ 62499) :
    ∃ g, ublInit (A : ℚ) 250 = .ok g ∧ loopCount (A : ℚ) g.paralLength = some g.ncells := by
  obtain ⟨g, h1, h2, _⟩ := cells_count_int A 250 hA1 (by norm_num) (by omega) (by omega)
  exact ⟨g, by simpa using h1, h2⟩

/-! ## Composition: the weights handed to `UCModel` -/

/-- The canyon object `u` that `UCModel` reads satisfies the weight
    hypotheses `UcmNonneg` of `canyon_convex` when

    * its areas are the ones `UCMDef.__init__` computed (`ucmGeometry … = .ok g`) for a density
      in (0,1), positive height and facade ratio (`areas_pos`; symbol hypothesis
      `0 < sqrt d < 1`),
    * `road.aeroCond` is what `SurfFlux` set from a reference wind `≥ 0` (`aeroCond_pos`) — the
      reference wind is `UCM.canWind` of the previous step, `≥ 0` by `canWind_nonneg`, or the
      initial wind,
    * `uExch` is what the tail of `urbflux` set (`uExch_nonneg`; symbol hypothesis
      `x ** (1/3.) ≥ 0` for `x ≥ 0`) with `exCoeff, g, zref, cp ≥ 0`,

    and — **still hypotheses**, nothing in the modelled code enforces them — pressure ≥ 0,
    canyon and boundary-layer temperatures > 0, humidities ≥ 0, `cp ≥ 0`. -/
theorem canyon_weights_nonneg (S : Sym K) (u : UcmIn K) (x : UrbIn K)
    (h dens vth tree veg : K) (g : Canyon.Geom K) (windRef : K)
    (hgeo : Canyon.ucmGeometry S h dens vth tree veg = .ok g)
    (hh : 0 < h) (hd0 : 0 < dens) (hd1 : dens < 1) (hv : 0 < vth) (ht : 0 ≤ tree)
    (hs0 : 0 < S.sqrt dens) (hs1 : S.sqrt dens < 1)
    (hroad : u.roadArea = g.roadArea) (hroof : u.roofArea = g.roofArea)
    (hfac : u.facArea = g.facArea) (hbh : u.bldHeight = h)
    (haero : u.aeroCond = aeroCond windRef) (hw : 0 ≤ windRef)
    (hex : u.uExch = (urbCore S x).uExch)
    (hS : ∀ a : K, 0 ≤ a → 0 ≤ S.rpow a (1 / 3)) (hexc : 0 ≤ x.exCoeff) (hg : 0 ≤ x.g)
    (hz : 0 ≤ zref x) (hxp : 0 ≤ x.pres) (hxT : 0 < x.canTemp) (hxq : 0 ≤ x.canHum)
    (hxcp : 0 ≤ x.cp)
    (hcp : 0 ≤ u.cp) (hp : 0 ≤ u.pres) (hT : 0 < u.canTemp) (hTu : 0 < u.tUbl)
    (hq : 0 ≤ u.canHum) (hqf : 0 ≤ u.forcHum) :
    UcmNonneg u := by
  obtain ⟨a1, a2, a3, _, _⟩ := areas_pos S h dens vth tree veg g hgeo hh hd0 hd1 hv ht hs0 hs1
  have dpos : ∀ p T q : K, 0 ≤ p → 0 < T → 0 ≤ q → 0 ≤ airDens p T q := fun p T q h1 h2 h3 =>
    div_nonneg h1 (airDensDen_pos h2 h3).le
  have hxd : 0 ≤ Urb.dens x := dpos _ _ _ hxp hxT hxq
  exact {
    aeroCond := by rw [haero]; exact (aeroCond_pos windRef hw).1.le
    roadArea := by rw [hroad]; exact a1.le
    roofArea := by rw [hroof]; exact a2.le
    facArea := by rw [hfac]; exact a3.le
    uExch := by rw [hex]; exact (uExch_nonneg S x hS hexc hg hz hxd hxcp hxT.le).2.2.2
    cp := hcp
    dens := dpos _ _ _ hp hT hq
    densUbl := dpos _ _ _ hp hTu hqf
    bldHeight := by rw [hbh]; exact hh.le }

/-- `canyon_convex` with `0 < H2` concluded instead of assumed. What is assumed in its place:
    `UcmNonneg u` (the conclusion of `canyon_weights_nonneg`), `0 < roadArea` and `0 < aeroCond`
    (conclusions of `areas_pos` and `aeroCond_pos`; strict, so not in `UcmNonneg`) and `0 ≤ sumH2`.
    None of those lemmas is applied here: putting in the values the code computes is left to the
    caller. -/
theorem canyon_convex_of_code (u : UcmIn K) (hu : UcmNonneg u) (lo hi : K) (bs : List (Bld K))
    (hroad : lo ≤ u.tRoad ∧ u.tRoad ≤ hi) (hubl : lo ≤ u.tUbl ∧ u.tUbl ≤ hi)
    (hb : ∀ b ∈ bs, BldNonneg b ∧ (lo ≤ b.indoorTemp ∧ b.indoorTemp ≤ hi) ∧
      (lo ≤ b.tWall ∧ b.tWall ≤ hi))
    (hQ : ucQ u bs = 0) (hroadA : 0 < u.roadArea) (haero : 0 < u.aeroCond)
    (hsum : 0 ≤ sumH2 u bs) :
    0 < ucH2 u bs ∧ lo ≤ canTempNew u bs ∧ canTempNew u bs ≤ hi := by
  have hH2 : 0 < ucH2 u bs :=
    add_pos_of_pos_of_nonneg
      (add_pos_of_pos_of_nonneg (mul_pos haero hroadA) (wUbl_nonneg u hu)) hsum
  exact ⟨hH2, canyon_convex u hu lo hi bs hroad hubl hb hQ hH2⟩

/-- the rural wind is *negative* on a level with `0 < (z − disp)/z0r < 1` (real logarithm,
    `ustarRur / vk > 0`): the hypothesis of `rsmWind_nonneg` on the levels cannot be dropped -/
theorem rsmWind_neg_real (u vk disp z0r z : ℝ) (hu : 0 < u / vk) (h0 : 0 < (z - disp) / z0r)
    (h1 : (z - disp) / z0r < 1) : rsmWind realSym u vk disp z0r z < 0 := by
  unfold rsmWind
  rw [if_neg (not_le.mpr h0)]
  exact mul_neg_of_pos_of_neg hu (Real.log_neg h0 h1)

/-! ## Non-vacuity (kernel-evaluated over ℚ) -/
section examples

def okAnd {ε α : Type} (e : Except ε α) (p : α → Bool) : Bool :=
  match e with
  | .ok a => p a
  | .error _ => false

example : okAnd (ublInit 1000 250) (fun g => decide (g.ncells = 4 ∧ g.numdx = 4 ∧
    g.paralLength = 250 ∧ loopCount 1000 g.paralLength = some 4)) = true := by decide +kernel

/-- the first integer charLength for which the loop bound is wrong: 250 cells, bound 251 -/
example : okAnd (ublInit 62499 250) (fun g => decide (g.ncells = 250 ∧
    loopCount 62499 g.paralLength = some 251)) = true := by decide +kernel

/-- ties go to the even integer: 375/250 = 1.5 → 2, 625/250 = 2.5 → 2 -/
example : pyRound (375 / 250) = 2 ∧ pyRound (625 / 250) = 2 ∧ pyRound (626 / 250) = 3 ∧
    pyRound 1 = 1 ∧ pyRound (-3 / 2) = -2 := by decide +kernel

example : okAnd (Canyon.ucmGeometry stubQ 10 (1/4) (4/5) (1/10) (1/5)) (fun g => decide
      (0 < g.roadArea ∧ 0 < g.roofArea ∧ 0 < g.facArea ∧ 0 ≤ g.roadShad ∧ g.roadShad ≤ 1)) = true ∧
    (0 < stubQ.sqrt (1/4) ∧ stubQ.sqrt (1/4) < 1) ∧
    z0u (10 : ℚ) (4/5) = 3/2 ∧ lDisp (10 : ℚ) (4/5) = 287/40 := by decide +kernel

def exRsmU : Rsm ℚ :=
  { nzref := 3, nzfor := 2, densityProfC := [12/10, 119/100, 118/100],
    dz := [4, 6, 10], z := [2, 7, 15], tempProf := [300, 300, 299], windProf := [2, 3, 4] }

def exUrb : UrbIn ℚ :=
  { rsm := exRsmU, z0r := 1/2, paralLength := 250, ublTemp := 299, urbArea := 1000000,
    wind := 4, pres := 101325, cp := 1004, windHeight := 10, vk := 2/5, g := 981/100,
    exCoeff := 3/10, canTemp := 298, canHum := 1/100, bldHeight := 10, z0u := 3/2,
    lDisp := 287/40, sensHeat := 120, verToHor := 4/5, windProf0 := [] }

/-- a state in which the tail of `urbflux` returns (no guard fires) and every weight hypothesis
    holds; the convective velocity exceeds the friction velocity here (`ustarMod = wstar`) -/
example : urbGuards stubQ exUrb = none ∧ 0 ≤ wstarBase exUrb ∧ 0 < Urb.dens exUrb ∧
    0 ≤ (urbCore stubQ exUrb).uExch ∧ (urbCore stubQ exUrb).windProf.length = 3 := by
  decide +kernel

/-- rural wind profile: level 0 below the displacement height (ValueError branch → 0), the
    others at least `z0r` above it -/
example : rsmWindLoop stubQ (1/2) (2/5) 3 (1/2) 3 [2, 7, 15] [1, 1, 1] = .ok [0, 35/4, 115/4] := by
  decide +kernel

end examples

end Uwg.C15
