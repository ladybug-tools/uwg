/-
C01 - the morphed EPW preserves every rural field it does not model.

Property theorems about the text layer of `write_epw` (model: `UwgVerif/Model/Csv.lean`, tied to
/repo/uwg/uwg.py by `harness/props/c01.py`).  Well-formed input throughout: cells contain no `\n` / `\r`
(the coverage guard of the `csv.reader` model), 8 header rows, the simulated window lies inside the data
and its rows have at least 22 cells.
-/
import UwgVerif.Lemmas.Csv
import UwgVerif.Lemmas.CsvFmt

namespace Uwg.C01
open Uwg.Csv

/-- Cell `j` of row `i` (`none` outside the table). -/
def cellAt (rows : List Row) (i j : Nat) : Option Cell := rows[i]?.bind (·[j]?)

/-! ### T1 - reading back a written row -/

/-- **T1.** Reading a written row gives the row back: for every row whose cells contain no line break,
except the row consisting of one empty cell, `csv.reader` applied to the line produced by the writer
returns exactly the cells that were written - whatever commas, quotes or blanks they contain.
(The empty row `[]` is covered: it is written as the empty line, which reads back as `[]`.)
The proof does not use the hypothesis on line breaks (to the automaton a line break is an ordinary character); it is
the coverage guard of the file header: only for such cells is `parseLine` a model of `csv.reader`. -/
theorem parse_render_row (r : Row) (_hnl : ∀ c ∈ r, '\n' ∉ c ∧ '\r' ∉ c) (hne : r ≠ [[]]) :
    parseLine (renderRow r) = r := by
  cases r with
  | nil => rfl
  | cons c cs =>
    -- the automaton returns the row; an empty line would make that row `[[]]`
    have h := parseAux_renderRow c cs
    cases hl : renderRow (c :: cs) with
    | nil => rw [hl] at h; exact absurd h.symm hne
    | cons x xs => rw [hl] at h; exact h

/-- The exception of T1 is genuine: the row with one empty cell is written as the empty line, and the
empty line reads back as the empty row (0 fields instead of 1). -/
theorem parse_render_single_empty : parseLine (renderRow [[]]) = [] := by decide

/-- The guard "no line break inside a cell" is needed by the code, not only by the model: the writer does
not quote a cell that contains a line break, so such a cell is written as two lines and reads back as two
records. -/
theorem newline_cell_splits :
    parseFile (writeText [[['a', '\n', 'b'], ['c']]]) = [[['a']], [['b'], ['c']]] := by decide

/-- A written row never leaves a quoted field open at the end of its line, so `csv.reader` ends the record
there (reading the file line by line is reading it record by record). As everywhere in the model a line break
counts as an ordinary character: this is about rows whose cells contain none (a quoted cell with a line break
in it ends its first physical line inside the field). -/
theorem render_closed (r : Row) : endSt .start (renderRow r) ≠ .quoted := by
  induction r using renderRow.induct with
  | case1 => decide
  | case2 c =>
    have := (through_renderCell c []).2
    rw [List.append_nil, endSt] at this
    rw [renderRow, this]
    exact after_ne_quoted c
  | case3 c d ds ih =>
    rw [renderRow, (through_renderCell c _).2, (comma_of_ne_quoted (after_ne_quoted c) _).2]
    exact ih

/-! ### T2 - the written file -/

/-- Reading back a text written from well-formed rows returns the rows. -/
theorem parseFile_writeText (rows : List Row) (hnl : ∀ r ∈ rows, ∀ c ∈ r, '\n' ∉ c ∧ '\r' ∉ c)
    (hne : ∀ r ∈ rows, r ≠ [[]]) : parseFile (writeText rows) = rows := by
  unfold parseFile
  rw [splitLines_writeText rows (fun r hr c hc => (hnl r hr c hc).1), List.map_map]
  have : ∀ r ∈ rows, (parseLine ∘ renderRow) r = id r := fun r hr =>
    parse_render_row r (hnl r hr) (hne r hr)
  rw [List.map_congr_left this, List.map_id]

/-- The rewritten fields contain no comma, quote or line break: nothing `_csv_field` would quote (`needsQuote`), and
nothing that would make a patched row ill-formed (how T2 uses it). -/
theorem fmtFixed_plain (num : Int) (den p : Nat) :
    ∀ c ∈ fmtFixed num den p, c ≠ '\n' ∧ c ≠ '\r' ∧ c ≠ ',' ∧ c ≠ '"' := by
  intro c hc
  rcases fmtFixed_chars num den p c hc with h | rfl | rfl
  · refine ⟨?_, ?_, ?_, ?_⟩ <;> (rintro rfl; revert h; decide)
  · decide
  · decide

/-- **T2.** For a well-formed rural file (8 header rows `hdr`, data rows `rows`, no line breaks inside
cells, no row that is a single empty cell), a window `s … s+|res|-1` inside the data whose rows have at
least 22 cells, any results and any precision: `write_epw` succeeds, and reading the written text back
gives the 8 header rows unchanged followed by `rows'`, where `rows'` has as many rows as `rows`, every row
has as many cells as before, the cells 6, 7, 8, 21 of the window rows are the formatted dry-bulb, dew-point,
relative-humidity and wind values of the corresponding hour, and **every other cell of every row is
identical** to the rural one. -/
theorem write_preserves (hdr rows : List Row) (s : Nat) (res : List Res) (p : Nat)
    (hh : hdr.length = 8)
    (hw : s + res.length ≤ rows.length)
    (h22 : ∀ i r, s ≤ i → i < s + res.length → rows[i]? = some r → 22 ≤ r.length)
    (hnl : ∀ r ∈ hdr ++ rows, ∀ c ∈ r, '\n' ∉ c ∧ '\r' ∉ c)
    (hne : ∀ r ∈ hdr ++ rows, r ≠ [[]]) :
    ∃ (text : List Char) (rows' : List Row), writeEpw hdr rows s res p = some text ∧
      parseFile text = hdr ++ rows' ∧
      rows'.length = rows.length ∧
      (∀ i : Nat, (rows'[i]?).map List.length = (rows[i]?).map List.length) ∧
      (∀ (i : Nat) (x : Res), s ≤ i → i < s + res.length → res[i - s]? = some x →
        cellAt rows' i 6 = some (fmtFrac x.tdb p) ∧ cellAt rows' i 7 = some (fmtFrac x.tdp p) ∧
        cellAt rows' i 8 = some (fmtFrac x.rh p) ∧ cellAt rows' i 21 = some (fmtFrac x.wind p)) ∧
      (∀ i j : Nat, ¬ (s ≤ i ∧ i < s + res.length ∧ (j = 6 ∨ j = 7 ∨ j = 8 ∨ j = 21)) →
        cellAt rows' i j = cellAt rows i j) := by
  have hfit : ∀ i, s ≤ i → i < s + res.length → ∃ r, rows[i]? = some r ∧ 21 < r.length := fun i h1 h2 => by
    have hi : rows[i]? = some rows[i] := List.getElem?_eq_getElem (by omega)
    exact ⟨_, hi, h22 i _ h1 h2 hi⟩
  have hp := (patchRows_eq_some p res rows s _).2 ⟨hfit, rfl⟩
  -- the written table is well-formed: a row of it is a rural row, as it was or patched with the result of its hour
  have hwf : ∀ r' ∈ hdr ++ rows.mapIdx (patchedAt p s res), (∀ c ∈ r', '\n' ∉ c ∧ '\r' ∉ c) ∧ r' ≠ [[]] := by
    intro r' hr'
    rcases List.mem_append.1 hr' with hr' | hr'
    · exact ⟨hnl r' (List.mem_append_left _ hr'), hne r' (List.mem_append_left _ hr')⟩
    · obtain ⟨i, hi, rfl⟩ := List.mem_mapIdx.1 hr'
      have hr := List.mem_append_right hdr (List.getElem_mem hi)
      refine patchedAt_cases ⟨hnl _ hr, hne _ hr⟩ fun x h1 h2 => ⟨fun c hc => ?_, fun e => ?_⟩
      · rcases mem_patched hc with h' | ⟨q, rfl⟩
        · exact hnl _ hr c h'
        · exact ⟨fun hm => (fmtFixed_plain _ _ _ _ hm).1 rfl, fun hm => (fmtFixed_plain _ _ _ _ hm).2.1 rfl⟩
      · have := h22 i _ h1 h2 (List.getElem?_eq_getElem hi)
        rw [← patched_length p _ x, e] at this
        exact absurd this (by decide)
  refine ⟨writeText (hdr ++ rows.mapIdx (patchedAt p s res)), _, ?_,
    parseFile_writeText _ (fun r hr => (hwf r hr).1) (fun r hr => (hwf r hr).2),
    List.length_mapIdx, fun i => ?_, fun i x h1 h2 hx => ?_, fun i j hnot => ?_⟩
  · rw [writeEpw, hp, Option.bind_some, if_neg (by omega), List.take_of_length_le (by omega)]
  · rw [List.getElem?_mapIdx]
    cases rows[i]? with
    | none => rfl
    | some r => simp [patchedAt_length]
  · obtain ⟨r, hr, hl⟩ := hfit i h1 h2
    simp [cellAt, List.getElem?_mapIdx, hr, patchedAt_window h1 hx, patched_get p r x hl]
  · simp only [cellAt, List.getElem?_mapIdx]
    cases rows[i]? with
    | none => rfl
    | some r =>
      show (patchedAt p s res i r)[j]? = r[j]?
      exact patchedAt_cases rfl fun x h1 h2 => patched_get_other p r x fun hj => hnot ⟨h1, h2, hj⟩

/-- `write_epw` raises IndexError whenever the (non-empty) window leaves the data - it never writes a file
with a shifted or truncated window. -/
theorem write_fails_outside (hdr rows : List Row) (s : Nat) (res : List Res) (p : Nat)
    (hw : rows.length < s + res.length) (hres : res ≠ []) :
    writeEpw hdr rows s res p = none := by
  cases hp : patchRows p rows s res with
  | none => simp [writeEpw, hp]
  | some rows' =>
    -- the last row of the window would have to be there
    have hpos : 0 < res.length := List.length_pos_iff.2 hres
    obtain ⟨r, hr, _⟩ :=
      ((patchRows_eq_some p res rows s rows').1 hp).1 (s + (res.length - 1)) (Nat.le_add_right _ _) (by omega)
    have := (List.getElem?_eq_some_iff.1 hr).1
    omega

/-! ### T3 - the rewritten fields are decimal numbers at the configured precision -/

/-- **T3.** For a value `num/den` (`den > 0`) and precision `p` the rewritten field is
`-?d+(.d{p})?`: an optional minus sign (present exactly when the value is negative), a non-empty string of
decimal digits, and - when `p > 0` - a point followed by exactly `p` digits; no other character occurs.
Read as an integer number of units of `10^-p`, the digits denote the integer `n` nearest to
`|num/den|·10^p` (`|n·den - |num|·10^p| ≤ den/2`, ties to even), i.e. the printed number is within
`½·10^-p` of the value. -/
theorem fmtFixed_shape (num : Int) (den p : Nat) (hden : 0 < den) :
    ∃ ip fp : List Char,
      fmtFixed num den p = (if num < 0 then ['-'] else []) ++ ip ++ (if p = 0 then [] else '.' :: fp) ∧
      ip ≠ [] ∧ (∀ c ∈ ip, c.isDigit = true) ∧ fp.length = p ∧ (∀ c ∈ fp, c.isDigit = true) ∧
      2 * (decValue (ip ++ fp) * den) ≤ 2 * (num.natAbs * 10 ^ p) + den ∧
      2 * (num.natAbs * 10 ^ p) ≤ 2 * (decValue (ip ++ fp) * den) + den ∧
      (2 * (num.natAbs * 10 ^ p % den) = den → decValue (ip ++ fp) % 2 = 0) := by
  refine ⟨natDigits (fmtScaled num den p / 10 ^ p), fixedDigits p (fmtScaled num den p % 10 ^ p),
    fmtFixed_eq num den p, natDigits_ne_nil _, natDigits_isDigit _, fixedDigits_length _ _,
    fixedDigits_isDigit _ _, ?_⟩
  have hv : decValue (natDigits (fmtScaled num den p / 10 ^ p) ++
      fixedDigits p (fmtScaled num den p % 10 ^ p)) = fmtScaled num den p := by
    rw [decValue_append_fixed, decValue_natDigits, Nat.mod_mod]
    exact Nat.div_add_mod' _ _
  rw [hv]
  exact roundHalfEven_spec _ _ hden

/-! ### T4 - the default output name differs from the input name -/

/-- **T4.** The default name of the morphed file is never the name of the rural file (so with the default
directory the output path differs from the input path and the rural file is not overwritten). -/
theorem default_name_ne (n : List Char) : defaultName n ≠ n := by
  intro h
  -- at most four characters go, eight come
  have hl := congrArg List.length h
  simp only [defaultName, suffixUwg, List.length_append, List.length_cons, List.length_nil] at hl
  split at hl
  · rw [List.length_take] at hl
    omega
  · omega

/-! ### T5 - the writer before the repair (documented defects) -/

/-- Pre-repair writer: a data row is written with its last field twice (2 fields become 3). -/
theorem asis_dup_field :
    parseLine (renderRowAsis [['1'], ['2']]) = [['1'], ['2'], ['2']] := by decide

/-- Pre-repair writer: a header cell containing a comma is written unquoted and reads back as two
fields (the repaired writer returns the row, by T1). -/
theorem asis_header_split :
    parseLine (renderHeaderAsis [['C'], ['a', ',', 'b']]) = [['C'], ['a'], ['b']] ∧
    parseLine (renderRow [['C'], ['a', ',', 'b']]) = [['C'], ['a', ',', 'b']] := by decide

/-! ### non-vacuity -/

/-- A concrete file satisfying the hypotheses of T2 (one data row of 22 cells, one of them containing a
comma and a quote; window = that row): `write_epw` returns. And three values as they are formatted at
precisions 0, 1, 2. -/
example :
    let row : Row := [['a', ',', '"']] ++ List.replicate 21 ['0']
    let hdr : List Row := List.replicate 8 [['H'], ['x', ',', 'y']]
    let r : Res := ⟨⟨5, 2⟩, ⟨-1, 100⟩, ⟨1, 8⟩, ⟨7, 1⟩⟩
    hdr.length = 8 ∧ 0 + [r].length ≤ [row].length ∧ 22 ≤ row.length ∧
    (writeEpw hdr [row] 0 [r] 0).isSome = true ∧
    fmtFrac r.tdb 0 = ['2'] ∧ fmtFrac r.tdp 1 = ['-', '0', '.', '0'] ∧
    fmtFrac r.rh 2 = ['0', '.', '1', '2'] := by
  refine ⟨rfl, by decide, by decide, ?_, ?_, ?_, ?_⟩
  · simp [writeEpw, patchRows, patchRow, setCol]
  · simp [fmtFrac, fmtFixed, fmtScaled, roundHalfEven, natDigits, digitChar]
  · simp [fmtFrac, fmtFixed, fmtScaled, roundHalfEven, natDigits, fixedDigits, digitChar]
  · simp [fmtFrac, fmtFixed, fmtScaled, roundHalfEven, natDigits, fixedDigits, digitChar]

end Uwg.C01
