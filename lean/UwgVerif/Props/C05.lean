/-
C05 — Results are a pure function of parameters and rural file.
World machine of `Model/Lifecycle.lean`: several objects in one interpreter, every operation
addressed to one object. Theorems hold for every machine (whatever the physics computes).
-/
import UwgVerif.Model.Lifecycle

namespace Uwg.C05
open Uwg.Life
variable {P L B R : Type}

/-- The operations of an interleaving that are addressed to object `i`, in order. -/
def opsOf (i : Nat) (ops : List (Nat × Op P)) : List (Op P) :=
  (ops.filter (fun iop => iop.1 == i)).map (·.2)

theorem getElem?_stepAt (M : Machine P L B R) (w : World P L B R) (j : Nat) (op : Op P) (i : Nat) :
    (stepAt M w j op)[i]? = if j = i then w[i]?.map (step M false · op) else w[i]? := by
  rw [stepAt, List.getElem?_modify]
  split <;> simp

/-- T1. Non-interference: after *any* interleaving of operations on any number of objects, object
    `i` is in exactly the state it reaches when only its own operations are run on it. -/
theorem noninterference (M : Machine P L B R) (ops : List (Nat × Op P)) :
    ∀ (w : World P L B R) (i : Nat),
      (runWorld M w ops)[i]? = (w[i]?).map (fun o => run M false o (opsOf i ops)) := by
  induction ops with
  | nil => intro w i; simp [runWorld, opsOf, run]
  | cons iop ops ih =>
    intro w i
    rw [runWorld, List.foldl_cons, ← runWorld, ih, getElem?_stepAt]
    by_cases h : iop.1 = i
    · simp [h, opsOf, run, Function.comp_def]
    · simp [h, opsOf, run]

/-- T2. Determinism / purity: a fresh object with parameters `p` that is generated and simulated
    produces the same records whatever else happens in the interpreter — other objects, their
    parameters, and the interleaving are irrelevant. -/
theorem deterministic (M : Machine P L B R) (p : P) (w w' : World P L B R) (i j : Nat)
    (ops ops' : List (Nat × Op P))
    (hw : w[i]? = some (fresh M p)) (hw' : w'[j]? = some (fresh M p))
    (hops : opsOf i ops = opsOf j ops') :
    (runWorld M w ops)[i]? = (runWorld M w' ops')[j]? := by
  rw [noninterference, noninterference, hw, hw', hops]

/-- Repeated runs: a second fresh object with the same parameters gives the same result. -/
theorem repeatable (M : Machine P L B R) (p : P) :
    (run M false (fresh M p) [.generate, .simulate]).last =
      ((runWorld M [fresh M p, fresh M p] [(0, .generate), (0, .simulate), (1, .generate), (1, .simulate)])[1]?).bind (·.last) := by
  rw [noninterference]
  simp [opsOf]

structure SObj (P B R : Type) where
  params : P
  built : Option B
  last : Option R

/-- Hypothetical design: one library object shared by all models (e.g. cached at class level) and
    mutated through the aliased archetypes. -/
def stepShared (M : Machine P L B R) (w : L × List (SObj P B R)) (i : Nat) (op : Op P) :
    L × List (SObj P B R) :=
  match w.2[i]? with
  | none => w
  | some o =>
    match op with
    | .set f => (w.1, w.2.set i { o with params := f o.params })
    | .generate =>
      let lib := M.customize o.params w.1
      (lib, w.2.set i { o with built := some (M.select o.params lib) })
    | .simulate =>
      match o.built with
      | none => w
      | some b =>
        let (b', lib', r) := M.sim b w.1
        (lib', w.2.set i { o with built := some b', last := some r })

def runShared (M : Machine P L B R) (w : L × List (SObj P B R)) (ops : List (Nat × Op P)) :=
  ops.foldl (fun w iop => stepShared M w iop.1 iop.2) w

/-- T3. With a shared, mutated library the result of object 0 depends on whether object 1 ran
    first (toy machine witness) — the per-instance load in `generate` is what makes T1 true.
    `stepShared` is a design uwg never had, not the code before a repair, which the prefix `asis_` stands
    for everywhere else: the unrepaired `generate` (`Life.generateAsis`, C17) reused the object's OWN library. -/
theorem asis_shared_library_breaks :
    let M := toy [⟨300, 200, 300, 200, false⟩]
    let o : SObj Ov (List Arch) (List Arch) := ⟨⟨none, none⟩, none, none⟩
    ((runShared M (M.pristine, [o, o]) [(0, .generate), (0, .simulate)]).2[0]?).bind (·.last) ≠
    ((runShared M (M.pristine, [o, o]) [(1, .generate), (1, .simulate), (0, .generate), (0, .simulate)]).2[0]?).bind (·.last) := by
  decide

end Uwg.C05
