/-
C04 — "Model clock and day type equal the true calendar at every step".

`dayOfYear0 M D` (specification side, from the month lengths) is the 0-based day of year of the start date;
the instant reached after `k` clock advances is `dayOfYear0 M D · 86400 + k · dt` seconds after
1 January 00:00.
-/
import UwgVerif.Lemmas.Clock

namespace Uwg.C04

/-- **T1.** For every valid start date `(M, D)`, every positive timestep dividing one hour and every number
`k` of clock advances that stays inside the year, `k` calls of `update_date` after the constructor raise no
exception and leave the clock in exactly the state of the true non-leap calendar at
`start + k·dt`: month, day of month, 0-based day of year, seconds of day and hour of day all agree. -/
theorem clock_correct (M D dt k : Nat) (hv : validDate M D) (hdt : dt ∣ 3600) (hpos : 0 < dt)
    (hin : dayOfYear0 M D * 86400 + k * dt < 365 * 86400) :
    Clock.run dt k (Clock.init M D) = some (trueCalendar (dayOfYear0 M D * 86400 + k * dt)) := by
  rw [Clock.init_eq_trueCalendar hv]
  exact Clock.run_trueCalendar hdt k _ (dvd_days hdt _) hin

/-- **T1, field by field.** The same statement spelt out: the five fields of the clock after `k` advances
are the month and day of month of day `secs / 86400` of the year, that day number, `secs % 86400` and
`secs % 86400 / 3600`, where `secs = start + k·dt`. -/
theorem clock_correct_fields (M D dt k : Nat) (hv : validDate M D) (hdt : dt ∣ 3600) (hpos : 0 < dt)
    (hin : dayOfYear0 M D * 86400 + k * dt < 365 * 86400) :
    ∃ c, Clock.run dt k (Clock.init M D) = some c ∧
      c.month = (monthDay ((dayOfYear0 M D * 86400 + k * dt) / 86400)).1 ∧
      c.day = (monthDay ((dayOfYear0 M D * 86400 + k * dt) / 86400)).2 ∧
      c.julian = (dayOfYear0 M D * 86400 + k * dt) / 86400 ∧
      c.secDay = (dayOfYear0 M D * 86400 + k * dt) % 86400 ∧
      c.hourDay = (dayOfYear0 M D * 86400 + k * dt) % 86400 / 3600 :=
  ⟨_, clock_correct M D dt k hv hdt hpos hin, trueCalendar_month _, trueCalendar_day _, trueCalendar_julian _,
    trueCalendar_secDay _, trueCalendar_hourDay _⟩

/-- **Invariant** maintained by the clock inside the year (consequence of T1): the date is a valid
calendar date, the code's `julian` equals `inobis[month-1] + day - 1` *and* equals the specification's
day of year of `(month, day)`, `secDay` is a multiple of `dt` below 86400, and `hourDay = secDay / 3600`
is an hour 0..23. -/
theorem clock_invariant (M D dt k : Nat) (hv : validDate M D) (hdt : dt ∣ 3600) (hpos : 0 < dt)
    (hin : dayOfYear0 M D * 86400 + k * dt < 365 * 86400) :
    ∃ c, Clock.run dt k (Clock.init M D) = some c ∧
      validDate c.month c.day ∧
      c.julian = inobis.getD (c.month - 1) 0 + c.day - 1 ∧
      c.julian = dayOfYear0 c.month c.day ∧
      c.secDay < 86400 ∧ dt ∣ c.secDay ∧ c.hourDay = c.secDay / 3600 ∧ c.hourDay < 24 :=
  ⟨_, clock_correct M D dt k hv hdt hpos hin, trueCalendar_invariant hdt (dvd_instant hdt _ k) hin _ rfl⟩

/-- The constructor accepts exactly the positive timesteps that divide one hour. -/
theorem create_ok_iff (dt M D : Nat) : Clock.create dt M D = .ok (Clock.init M D) ↔ (0 < dt ∧ dt ∣ 3600) := by
  rw [Clock.create_eq]
  split <;> simp [*]

/-- With a timestep accepted by the constructor the `TIMESTEP ERROR` branch of `update_date` is never
taken, inside or outside the year: from a state whose `secDay` is a multiple of `dt` below 86400 the update
succeeds and re-establishes that condition. -/
theorem no_timestep_error (dt : Nat) (c : Clock) (hdt : dt ∣ 3600) (hs : dt ∣ c.secDay)
    (hlt : c.secDay < 86400) :
    ∃ c', Clock.update dt c = some c' ∧ dt ∣ c'.secDay ∧ c'.secDay < 86400 := by
  have hle := add_le_of_dvd_lt hs (dvd_86400 hdt) hlt
  by_cases hmid : c.secDay + dt = 86400
  · exact ⟨_, by simp [Clock.update, hmid]; rfl, by simp, by simp⟩
  · have hng : ¬ (c.secDay + dt > 86400) := by omega
    refine ⟨_, by simp only [Clock.update, hmid, if_false, hng]; rfl, ?_, ?_⟩
    · exact Nat.dvd_add hs (Nat.dvd_refl dt)
    · show c.secDay + dt < 86400
      omega

/-- **T2.** The day type assigned in `simulate` (3 if `julian % 7 = 0`, 2 if `= 6`, else 1) is, for every
0-based day of year, the class (Sunday 3 / Saturday 2 / Monday–Friday 1) of the weekday obtained by walking
forward from Sunday 1 January one day at a time. -/
theorem dayType_correct (doy : Nat) : dayType doy = trueDayType doy :=
  match doy with
  | 0 | 1 | 2 | 3 | 4 | 5 | 6 => by decide
  | doy + 7 => by
    -- both sides have period 7
    have h : dayType (doy + 7) = dayType doy := by
      unfold dayType
      rw [Nat.add_mod_right]
    rw [h, dayType_correct doy, trueDayType, trueDayType, weekdayOf_add_seven]

/-- **T1 + T2.** At every step inside the year the day type computed from the model clock is the true
weekday class of the calendar day containing `start + k·dt`. -/
theorem dayType_at_step (M D dt k : Nat) (hv : validDate M D) (hdt : dt ∣ 3600) (hpos : 0 < dt)
    (hin : dayOfYear0 M D * 86400 + k * dt < 365 * 86400) :
    ∃ c, Clock.run dt k (Clock.init M D) = some c ∧
      dayType c.julian = trueDayType ((dayOfYear0 M D * 86400 + k * dt) / 86400) :=
  ⟨_, clock_correct M D dt k hv hdt hpos hin, dayType_correct _⟩

/-- **T3 (what the code does at the end of the year; outside the property's domain).** The advance that
reaches 31 December 24:00 raises no exception and leaves `month = 12`, `day = 32`, `julian = 365`,
`secDay = 0`, `hourDay = 0`: 365 is not an entry of `inobis`, so the 12-way scan finds nothing and the
month is *not* rolled over (the clock reads "32 December 00:00", not 1 January). -/
theorem year_end (M D dt k : Nat) (hv : validDate M D) (hdt : dt ∣ 3600) (hpos : 0 < dt)
    (hend : dayOfYear0 M D * 86400 + k * dt = 365 * 86400) :
    Clock.run dt k (Clock.init M D) =
      some { month := 12, day := 32, julian := 365, secDay := 0, hourDay := 0 } := by
  have hj := dayOfYear0_lt hv
  have hle : dt ≤ 3600 := Nat.le_of_dvd (by decide) hdt
  cases k with
  | zero => omega
  | succ k =>
    rw [Nat.succ_mul] at hend
    rw [Clock.run_succ_last, clock_correct M D dt k hv hdt hpos (by omega), Option.bind_some]
    have e1 : (dayOfYear0 M D * 86400 + k * dt) / 86400 = 364 := by omega
    have e2 : (dayOfYear0 M D * 86400 + k * dt) % 86400 + dt = 86400 := by omega
    simp only [Clock.update, trueCalendar, e1, e2, if_true]
    decide

/-- The day type at that year-end state is 1 (weekday): `365 % 7 = 1`. -/
theorem year_end_dayType : dayType 365 = 1 := by decide

/-! ### Non-vacuity -/

/-- The hypotheses of T1 are satisfiable with a month roll-over inside: 28 February, dt = 300 s,
288 advances (= 24 h) is inside the year. -/
example : validDate 2 28 ∧ 300 ∣ 3600 ∧ 0 < 300 ∧ dayOfYear0 2 28 * 86400 + 288 * 300 < 365 * 86400 := by
  decide

set_option maxRecDepth 100000 in
/-- 28 February 23:55 + 300 s = 1 March 00:00, day of year 59 (0-based). -/
example : Clock.run 300 287 (Clock.init 2 28) = some ⟨2, 28, 58, 86100, 23⟩ ∧
    Clock.run 300 288 (Clock.init 2 28) = some ⟨3, 1, 59, 0, 0⟩ := by
  decide +kernel

/-- 7 January is a Saturday, 8 January a Sunday, 9 January a Monday when 1 January is a Sunday. -/
example : dayType 6 = 2 ∧ dayType 7 = 3 ∧ dayType 8 = 1 ∧ weekdayOf 6 = .sat ∧ weekdayOf 8 = .mon := by
  decide

/-- A timestep that does not divide the day is refused by `update_date`: 50000 + 50000 > 86400. -/
example : Clock.run 50000 2 (Clock.init 1 1) = none := by decide

end Uwg.C04
