/-
C19 — Shipped reference library equals its source tables and is usable.

`Gen/RefTables.lean` is REGENERATED from the working tree by harness/extract/reftables.py on
every run of the check (translator route): `shipped` is what the pickle contains, `regenerated`
what the reader builds from the csv tables. The theorems below are re-checked against it.
-/
import UwgVerif.Gen.RefTables
import UwgVerif.Lemmas.RefLib
import UwgVerif.Props.C11

namespace Uwg.C19
open Uwg.RefLib Uwg.Gen

/-- T1. The shipped binary library is exactly what the reader produces from the reference
    tables: same constructions (every layer thickness, conductivity, heat capacity, bit for bit),
    and for each of the 768 archetypes the same construction ids, fractions, positive scalars,
    schedule shapes and SHA-256 digest of *all* attributes of the BEMDef and its SchDef.
    (Finite tables: the two generated literals are the same term, which the kernel finds by unfolding both;
    no axioms.) -/
theorem shipped_eq_regenerated :
    shippedConstructions = regeneratedConstructions ∧ shipped = regenerated :=
  ⟨rfl, rfl⟩

/-- The shipped table has 768 = 16 × 3 × 16 rows: the translator writes one per (type, era, zone) cell of the
    pickle. A count only; what sits in a row is said by its digest (`shipped_eq_regenerated`). -/
theorem shipped_complete : shipped.length = 768 := by decide +kernel

/-- T2. Every shipped archetype is physically well-formed: wall, roof and mass each have at
    least two layers with positive thickness, conductivity and heat capacity; the listed
    fractions lie in [0, 1]; floor height, COP, U-value, capacities and initial temperature are
    positive; all seven schedules are 3 × 24.
    (Finite table. The kernel evaluates the table checker `tableOk` of `Lemmas/RefLib`: each construction once
    and, of each row, the three construction indices, the fractions, the positive scalars and the shape;
    `rowOk_of_tableOk` carries that over to `rowOk`. `tableOk` would also reject a malformed construction that no
    row uses; the translator emits only constructions that some archetype refers to.) -/
theorem all_wellformed : shipped.all (rowOk nFracs nPos shippedConstructions) = true :=
  rowOk_of_tableOk (by decide +kernel)

def toQ (x : Dbl) : ℚ := (x.1 : ℚ) / (2 : ℚ) ^ x.2

theorem toQ_pos {x : Dbl} (h : x.pos = true) : 0 < toQ x :=
  div_pos (Nat.cast_pos.2 (of_decide_eq_true h)) (pow_pos two_pos _)

/-- The layers of a construction at given temperatures (missing temperatures read as 0; the
    theorem below quantifies over the temperature list, so nothing depends on that default). -/
def layersOf : List (Dbl × Dbl × Dbl) → List ℚ → List (Layer ℚ)
  | [], _ => []
  | l :: ls, ts => ⟨toQ l.1, toQ l.2.1, toQ l.2.2, ts.headD 0⟩ :: layersOf ls ts.tail

theorem layersOf_length (c : List (Dbl × Dbl × Dbl)) (ts : List ℚ) :
    (layersOf c ts).length = c.length := by
  induction c generalizing ts with
  | nil => rfl
  | cons l ls ih => simp [layersOf, ih]

theorem layersOf_pos (c : List (Dbl × Dbl × Dbl)) (ts : List ℚ)
    (h : c.all (fun l => l.1.pos && l.2.1.pos && l.2.2.pos) = true) : PosLayers (layersOf c ts) := by
  fun_induction layersOf c ts with
  | case1 => exact fun _ hl => nomatch hl
  | case2 l ls ts ih =>
    simp only [List.all_cons, Bool.and_eq_true] at h
    obtain ⟨⟨⟨hd, hk⟩, hc⟩, hrest⟩ := h
    exact List.forall_mem_cons.2 ⟨⟨toQ_pos hd, toQ_pos hk, toQ_pos hc⟩, ih hrest⟩

/-- T3. For a well-formed construction, every conduction step — any positive timestep, any layer
    temperatures, any boundary condition and fluxes — returns a solution of the system: no
    pivot vanishes, `invert` cannot divide by zero. With T2 this covers all 768 archetypes. -/
theorem wellformed_solvable (c : List (Dbl × Dbl × Dbl)) (hc : consOk c = true)
    (dt flx1 : ℚ) (bc : BC ℚ) (ts : List ℚ) (hdt : 0 < dt) :
    ∃ xs, conduction dt flx1 bc (layersOf c ts) = some xs ∧ xs.length = c.length ∧
      Sat 0 (condRows dt bc 0 0 flx1 (layersOf c ts)) xs := by
  unfold consOk at hc
  simp only [Bool.and_eq_true, decide_eq_true_eq] at hc
  obtain ⟨hlen, hall⟩ := hc
  obtain ⟨xs, h1, h2, h3⟩ := C11.conduction_solves dt flx1 bc (layersOf c ts) hdt
    (layersOf_pos c ts hall) (by rw [layersOf_length]; exact hlen)
  exact ⟨xs, h1, by rw [h2, layersOf_length], h3⟩

/-- What T3 asks of the table: the wall, roof and mass of every shipped archetype are constructions of the
    table with `consOk`, the hypothesis of `wellformed_solvable` (its conclusion is not repeated here). -/
theorem shipped_solvable (r : ArchRow) (hr : r ∈ shipped) :
    ∃ w ro m, shippedConstructions[r.wall]? = some w ∧ shippedConstructions[r.roof]? = some ro ∧
      shippedConstructions[r.mass]? = some m ∧ consOk (layersOfCode w) = true ∧
      consOk (layersOfCode ro) = true ∧ consOk (layersOfCode m) = true :=
  (rowOk_iff.1 (List.all_eq_true.mp all_wellformed r hr)).1

end Uwg.C19
