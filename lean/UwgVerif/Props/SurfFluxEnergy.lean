/-
Composition B - `Element.SurfFlux` = season partition (C18) + conduction step (C11).

Theorems about `surfFlux` (Model/SurfFlux.lean), for every linearly ordered field: the energy balance of
the WHOLE routine in terms of the quantities it leaves on the element (`solAbs`, `infra`, `lat`, `sens`),
the off-season "bare ground" statement carried through the conduction step to the new layer temperatures,
and the isothermal fixed point.
-/
import UwgVerif.Model.SurfFlux
import UwgVerif.Props.C11
import UwgVerif.Props.C18

namespace Uwg.SurfFluxEnergy
open Uwg.C11
variable {K : Type} [Field K] [LinearOrder K] [IsStrictOrderedRing K]

theorem isNearZero_zero : isNearZero (0 : K) = true := by
  unfold isNearZero
  simp only [lt_self_iff_false, if_false, decide_eq_true_eq]
  positivity

theorem isNearZero_one : isNearZero (1 : K) = false := by
  unfold isNearZero
  have h1 : ¬ ((1 : K) < 0) := not_lt.mpr zero_le_one
  simp only [h1, if_false, decide_eq_false_iff_not, not_lt]
  rw [div_le_one (by positivity)]
  norm_num

/-- The left-hand side is the boundary selection of `surfFlux` (its `let bc`, which has no name in
    the model), here and wherever it is spelt out below. -/
theorem boundCond_one_selects_flux {a : SurfArgs K} (h : a.boundCond = 1) :
    (if isNearZero (a.boundCond - 1) then some (BC.flux a.intFlux)
      else if isNearZero (a.boundCond - 2) then some (BC.deep a.deepTemp) else none) =
      some (.flux a.intFlux) := by
  rw [h, sub_self, isNearZero_zero, if_pos rfl]

theorem boundCond_two_selects_deep {a : SurfArgs K} (h : a.boundCond = 2) :
    (if isNearZero (a.boundCond - 1) then some (BC.flux a.intFlux)
      else if isNearZero (a.boundCond - 2) then some (BC.deep a.deepTemp) else none) =
      some (.deep a.deepTemp) := by
  rw [h, show (2 : K) - 1 = 1 by norm_num, isNearZero_one, if_neg Bool.false_ne_true, sub_self,
    isNearZero_zero, if_pos rfl]

/-- What a successful `SurfFlux` consists of: the partition evaluated at the old outer-layer temperature,
    then `Conduction` with the net flux and the boundary selected by `boundCond`. -/
theorem surfFlux_ok_inv (e : SurfElement K) (a : SurfArgs K) (r : SurfResult K)
    (h : surfFlux e a = .ok r) :
    ∃ (l0 : Layer K) (bc : BC K), e.layers.head? = some l0 ∧ 2 ≤ e.layers.length ∧
      (if isNearZero (a.boundCond - 1) then some (BC.flux a.intFlux)
        else if isNearZero (a.boundCond - 2) then some (BC.deep a.deepTemp) else none) = some bc ∧
      conduction a.dt (surfPartition e a l0.t).flux bc e.layers = some r.layerTemp ∧
      r.solAbs = (surfPartition e a l0.t).solAbs ∧ r.lat = (surfPartition e a l0.t).lat ∧
      r.sens = (surfPartition e a l0.t).sens ∧ r.flux = (surfPartition e a l0.t).flux ∧
      r.aeroCond = aeroCondOf a.windRef ∧ r.dens = a.pres / densDenom a ∧
      r.layerTemp.head? = some r.tExt ∧ r.layerTemp.getLast? = some r.tInt := by
  unfold surfFlux at h
  split at h
  · cases h
  · cases hl : e.layers.head? with
    | none => simp [hl] at h
    | some l0 =>
      simp only [hl] at h
      split at h
      · cases h
      · rename_i hlen
        split at h
        · cases h
        · rename_i bc hbc
          cases hc : conduction a.dt (surfPartition e a l0.t).flux bc e.layers with
          | none => simp [hc] at h
          | some xs =>
            simp only [hc] at h
            split at h
            · rename_i x0 xl h0 hlast
              cases h
              exact ⟨l0, bc, rfl, by omega, hbc, hc, rfl, rfl, rfl, rfl, rfl, rfl, h0, hlast⟩
            · cases h

/-- The net flux handed to `Conduction` is `solAbs + infra − lat − sens` of the partition, for both
    orientations. -/
theorem partition_flux (e : SurfElement K) (a : SurfArgs K) (t0 : K) :
    (surfPartition e a t0).flux =
      (surfPartition e a t0).solAbs + e.infra - (surfPartition e a t0).lat - (surfPartition e a t0).sens := by
  unfold surfPartition
  split
  · simp only [surfFluxHorizontal, surfIn]
  · simp only [surfFluxVertical]

/-- Boundary kind 1 (flux at the inner face, `boundCond = 1`): for physically admissible layers and a
    positive timestep, whenever `SurfFlux` returns, the heat stored in the element has changed by exactly
    `dt · (solAbs + infra − lat − sens + intFlux)`, where `solAbs`, `lat`, `sens` are the values the
    routine leaves on the element - for horizontal elements in and out of the vegetation season (road or
    not) and for vertical ones. -/
theorem surfflux_energy_flux_bc (e : SurfElement K) (a : SurfArgs K) (r : SurfResult K)
    (hbc : a.boundCond = 1) (hdt : 0 < a.dt) (hpos : PosLayers e.layers)
    (h : surfFlux e a = .ok r) :
    storedChange e.layers r.layerTemp = a.dt * (r.solAbs + e.infra - r.lat - r.sens + a.intFlux) ∧
    r.flux = r.solAbs + e.infra - r.lat - r.sens := by
  obtain ⟨l0, bc, _, hlen, hsel, hc, h1, h2, h3, h4, _⟩ := surfFlux_ok_inv e a r h
  rw [boundCond_one_selects_flux hbc] at hsel
  cases hsel
  have hE := energy_flux_bc a.dt _ a.intFlux e.layers r.layerTemp hdt hpos hlen hc
  have hf := partition_flux e a l0.t
  rw [← h1, ← h2, ← h3] at hf
  exact ⟨by rw [hE, hf], by rw [h4, hf]⟩

/-- Boundary kind 2 (`boundCond = 2`): the innermost layer takes the deep temperature (so
    `T_int = deepTemp`), and the heat stored in the other layers changes by exactly
    `dt · (solAbs + infra − lat − sens − conductive flux into the deep layer)`. -/
theorem surfflux_energy_deep_bc (e : SurfElement K) (a : SurfArgs K) (r : SurfResult K)
    (hbc : a.boundCond = 2) (hdt : 0 < a.dt) (hpos : PosLayers e.layers)
    (h : surfFlux e a = .ok r) :
    r.tInt = a.deepTemp ∧
    storedChange e.layers.dropLast r.layerTemp =
      a.dt * (r.solAbs + e.infra - r.lat - r.sens - deepFlux e.layers r.layerTemp) := by
  obtain ⟨l0, bc, _, hlen, hsel, hc, h1, h2, h3, _, _, _, _, hlast⟩ := surfFlux_ok_inv e a r h
  rw [boundCond_two_selects_deep hbc] at hsel
  cases hsel
  obtain ⟨hL, hE⟩ := energy_deep_bc a.dt _ a.deepTemp e.layers r.layerTemp hdt hpos hlen hc
  have hf := partition_flux e a l0.t
  rw [← h1, ← h2, ← h3] at hf
  rw [hlast] at hL
  exact ⟨by injection hL, by rw [hE, hf]⟩

/-- C18 through the whole step. Two calls that agree on everything except the vegetation data - the
    element's vegetation cover, its grass / tree cover, the vegetation albedo and the two latent
    fractions, and the season bounds themselves - and the month, and that are both off season, each in
    its own month (or concern a vertical element), have the same outcome: the same absorbed / latent /
    sensible / net flux and the same NEW LAYER TEMPERATURES, `T_ext`, `T_int` (or the same exception). -/
theorem surfflux_offseason_bare (e e' : SurfElement K) (a a' : SurfArgs K)
    (he : e.horizontal = e'.horizontal ∧ e.albedo = e'.albedo ∧ e.solRec = e'.solRec ∧
      e.infra = e'.infra ∧ e.layers = e'.layers)
    (ha : a.pres = a'.pres ∧ a.deepTemp = a'.deepTemp ∧ a.waterDens = a'.waterDens ∧ a.lv = a'.lv ∧
      a.dt = a'.dt ∧ a.humRef = a'.humRef ∧ a.tempRef = a'.tempRef ∧ a.windRef = a'.windRef ∧
      a.boundCond = a'.boundCond ∧ a.intFlux = a'.intFlux)
    (hoff : e.horizontal = false ∨ (offSeasonElement a.month a.vegStart a.vegEnd = true ∧
      offSeasonElement a'.month a'.vegStart a'.vegEnd = true)) :
    surfFlux e a = surfFlux e' a' := by
  obtain ⟨e1, e2, e3, e4, e5⟩ := he
  obtain ⟨a1, a2, a3, a4, a5, a6, a7, a8, a9, a10⟩ := ha
  have hden : densDenom a = densDenom a' := by unfold densDenom; rw [a6, a7]
  have hpart : ∀ t0, surfPartition e a t0 = surfPartition e' a' t0 := by
    intro t0
    unfold surfPartition
    rw [← e1]
    cases hh : e.horizontal with
    | false => simp only [Bool.false_eq_true, if_false, surfFluxVertical, e2, e3, e4, a7, a8]
    | true =>
      rcases hoff with hv | ⟨h1, h2⟩
      · rw [hh] at hv; cases hv
      · simp only [if_true, h1, h2]
        exact C18.off_season_bare _ _ ⟨e2, e3, e4, by simp only [surfIn, a3, a4],
          by simp only [surfIn, a8], rfl, by simp only [surfIn, a7]⟩
  unfold surfFlux
  simp only [hden, hpart, e5, a1, a2, a5, a8, a9, a10]

theorem surfFlux_defined {e : SurfElement K} {a : SurfArgs K} (hden : densDenom a ≠ 0)
    (hlen : 2 ≤ e.layers.length) {bc : BC K}
    (hsel : (if isNearZero (a.boundCond - 1) then some (BC.flux a.intFlux)
      else if isNearZero (a.boundCond - 2) then some (BC.deep a.deepTemp) else none) = some bc) :
    ∃ r, surfFlux e a = .ok r := by
  obtain ⟨l0, h0⟩ : ∃ l0, e.layers.head? = some l0 :=
    ⟨_, List.head?_eq_some_head (List.ne_nil_of_length_pos (by omega))⟩
  have hc := conduction_returns a.dt (surfPartition e a l0.t).flux bc hlen
  -- the new temperatures are as many as the layers, so there is a first and a last one
  obtain ⟨x0, xs, hxs⟩ := List.exists_cons_of_length_pos
    (l := solve (condRows a.dt bc 0 0 (surfPartition e a l0.t).flux e.layers))
    (by rw [solve_length, condRows_length]; omega)
  rw [hxs] at hc
  unfold surfFlux
  simp only [if_neg hden, h0, hsel, if_neg (not_lt.mpr hlen), hc, List.head?_cons,
    List.getLast?_cons]
  exact ⟨_, rfl⟩

/-- `SurfFlux` returns (no exception) whenever the density denominator does not vanish, the element has
    at least two layers and the boundary kind is 1 or 2. -/
theorem surfflux_returns (e : SurfElement K) (a : SurfArgs K) (hden : densDenom a ≠ 0)
    (hlen : 2 ≤ e.layers.length) (hkind : a.boundCond = 1 ∨ a.boundCond = 2) :
    ∃ r, surfFlux e a = .ok r :=
  hkind.elim (fun h => surfFlux_defined hden hlen (boundCond_one_selects_flux h))
    (fun h => surfFlux_defined hden hlen (boundCond_two_selects_deep h))

theorem surfPartition_isothermal (e : SurfElement K) (a : SurfArgs K) (hsol : e.solRec = 0)
    (hinf : e.infra = 0) : surfPartition e a a.tempRef = ⟨0, 0, 0, 0⟩ := by
  unfold surfPartition
  split
  · unfold surfFluxHorizontal surfIn
    cases offSeasonElement a.month a.vegStart a.vegEnd
    · cases hrc : e.roadCover with
      | none => simp [hsol, hinf]
      | some gt => obtain ⟨g, t⟩ := gt; simp [hsol, hinf]
    · simp [hsol, hinf]
  · simp [surfFluxVertical, hsol, hinf]

/-- No radiation (`solRec = 0`, `infra = 0`), every layer at the reference air temperature
    (`T_surface = tempRef`, uniform layers), no heat through the inner face (zero inner flux for kind 1;
    deep temperature equal to that same temperature for kind 2): `SurfFlux` leaves the element
    unchanged - net flux 0, every layer temperature as before, `T_ext = T_int = tempRef` - in and out of
    season, for every orientation and wind. -/
theorem surfflux_isothermal (e : SurfElement K) (a : SurfArgs K)
    (hsol : e.solRec = 0) (hinf : e.infra = 0) (hu : Uniform a.tempRef e.layers)
    (hkind : (a.boundCond = 1 ∧ a.intFlux = 0) ∨ (a.boundCond = 2 ∧ a.deepTemp = a.tempRef))
    (hden : densDenom a ≠ 0) (hdt : 0 < a.dt) (hpos : PosLayers e.layers) (hlen : 2 ≤ e.layers.length) :
    ∃ r, surfFlux e a = .ok r ∧ r.layerTemp = e.layers.map (·.t) ∧ r.flux = 0 ∧ r.sens = 0 ∧
      r.tExt = a.tempRef ∧ r.tInt = a.tempRef := by
  -- the selected boundary, with zero outer flux, leaves the uniform profile as it is
  obtain ⟨bc, hsel, hfix⟩ : ∃ bc, (if isNearZero (a.boundCond - 1) then some (BC.flux a.intFlux)
      else if isNearZero (a.boundCond - 2) then some (BC.deep a.deepTemp) else none) = some bc ∧
      conduction a.dt 0 bc e.layers = some (e.layers.map (·.t)) := by
    rcases hkind with ⟨h1, h2⟩ | ⟨h1, h2⟩
    · exact ⟨_, boundCond_one_selects_flux h1, h2 ▸ uniform_fixed a.dt a.tempRef _ hdt hpos hlen hu⟩
    · refine ⟨_, boundCond_two_selects_deep h1, ?_⟩
      match e.layers, hlen, hu, hpos with
      | l :: l' :: rest, _, hu, hpos =>
        have := steady_fixed_deep a.dt 0 l l' rest hdt hpos (uniform_steady hu)
        rwa [hu _ (List.getLast_mem _), ← h2] at this
  obtain ⟨r, hr⟩ := surfFlux_defined hden hlen hsel
  obtain ⟨l0, bc', h0, _, hsel', hc, _, _, h3, h4, _, _, hext, hint⟩ := surfFlux_ok_inv e a r hr
  rw [hsel] at hsel'; cases hsel'
  rw [hu l0 (List.mem_of_mem_head? h0), surfPartition_isothermal e a hsol hinf] at hc h3 h4
  rw [hfix] at hc
  have hlt : e.layers.map (·.t) = r.layerTemp := Option.some.inj hc
  have hall : ∀ x ∈ r.layerTemp, x = a.tempRef := hlt ▸ List.forall_mem_map.mpr hu
  exact ⟨r, hr, hlt.symm, h4, h3, hall _ (List.mem_of_mem_head? hext),
    hall _ (List.mem_of_getLast? hint)⟩

/-! ### Non-vacuity -/

private def exE : SurfElement ℚ := ⟨true, 1/10, 1/2, some (1/5, 1/10), 400, -50,
  [⟨1/20, 1, 1600000, 295⟩, ⟨1/20, 1, 1600000, 293⟩, ⟨1/10, 3/2, 1400000, 290⟩]⟩
private def exA : SurfArgs ℚ :=
  ⟨101325, 288, 4, 10, 1/4, 1/2, 7/10, 1000, 2500000, 7, 300, 1/100, 298, 3, 1, 5⟩

/-- A concrete road-like element (three layers, in season - month 7 of 4..10 -, grass and tree cover) and
    arguments with boundary kind 1: the hypotheses of the energy theorem are met and the routine returns. -/
example : PosLayers exE.layers ∧ 0 < exA.dt ∧ exA.boundCond = 1 ∧ (∃ r, surfFlux exE exA = .ok r) := by
  refine ⟨?_, by norm_num [exA], rfl, ?_⟩
  · intro l hl
    simp only [exE, List.mem_cons, List.mem_nil_iff, or_false] at hl
    rcases hl with rfl | rfl | rfl <;> norm_num
  · exact surfflux_returns exE exA (by norm_num [densDenom, exA]) (by simp [exE]) (.inl rfl)

end Uwg.SurfFluxEnergy
