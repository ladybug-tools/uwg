/-
C13 — Canyon short-wave and long-wave exchange never creates energy.

The property theorems (algebraic helpers in `Lemmas/Canyon.lean`, model in `Model/Canyon.lean`,
whose header defines `entering`, `absorbed`, `escaped` — all per unit length of canyon and per unit
road width; multiply by the road width `w` for totals, wall height `h = a·w`).

Everything is generic over an ordered field `K` and an arbitrary interpretation `S : Sym K` of the
libm symbols. Where a fact about a symbol is needed it is an explicit hypothesis (`s*s = a*a+1`,
`0 ≤ s` for the root; `S.pi ≠ 0`; `S.cos z ≤ 1`), so the theorems hold for the real functions and
say precisely what is used. The last section discharges those hypotheses for `realSym`.

Status of the property on the code as it stands:
* view factors, beam partition, non-negativity, no-sun branch, long-wave antisymmetry and
  equilibrium: **proved** of the model of the code;
* "total absorbed short-wave never exceeds what enters the canyon": **false** of the coded
  reflection closure (`asis_creates_energy`), exactly when `cR > 1`
  (`absorbed_le_entering_iff`, `cB_le_one`); **proved** of the radiosity closure
  `Closure.spec` (`absorbed_le_entering_spec`, `solar_absorbed_le_incoming_spec`).
-/
import UwgVerif.Lemmas.Canyon
import UwgVerif.Lemmas.WeightedMean
import UwgVerif.Model.SymbolsReal
import Mathlib.Analysis.SpecialFunctions.Trigonometric.Bounds

namespace Uwg.C13
open Uwg.Canyon
variable {K : Type} [Field K] [LinearOrder K] [IsStrictOrderedRing K]

/-! ## T0 — admissible geometry gives a positive canyon -/

/-- Every positive building height, density strictly between 0 and 1 and positive facade ratio
    makes `UCMDef.__init__` succeed with a positive canyon width and a positive aspect ratio
    (the symbol `sqrt` is assumed to return the true positive root of the density). -/
theorem geometry_positive (S : Sym K) (h dens vth tree veg : K)
    (hh : 0 < h) (hd0 : 0 < dens) (hd1 : dens < 1) (hv : 0 < vth)
    (hr : S.sqrt dens * S.sqrt dens = dens) (hr0 : 0 < S.sqrt dens) :
    ∃ g, ucmGeometry S h dens vth tree veg = .ok g ∧ 0 < g.canWidth ∧ 0 < g.canAspect ∧
      h = g.canAspect * g.canWidth := by
  -- √dens < 1, so the block `bldWidth/√dens` is wider than the building
  have hr1 : S.sqrt dens < 1 :=
    lt_of_mul_self_lt_mul_self₀ zero_le_one (by rw [hr, one_mul]; exact hd1)
  have hbw : 0 < 4 * h * dens / vth := by positivity
  have hcw : 0 < 4 * h * dens / vth / S.sqrt dens - 4 * h * dens / vth :=
    sub_pos.mpr ((lt_div_iff₀ hr0).mpr (mul_lt_of_lt_one_right hbw hr1))
  obtain ⟨g, hg⟩ := ucmGeometry_returns tree veg (sub_pos.mpr hd1).ne' hv.ne' hd0.le hr0.ne'
    hcw.ne' (div_pos hh hcw).ne'
  obtain ⟨-, -, -, ebw, ecw, ea, -⟩ := ucmGeometry_ok hg
  have hcw' : 0 < g.canWidth := by
    rw [ecw, ebw]
    exact hcw
  refine ⟨g, hg, hcw', by rw [ea]; exact div_pos hh hcw', ?_⟩
  rw [ea, div_mul_cancel₀ _ hcw'.ne']

/-! ## T1 — view factors -/

/-- Reciprocity: (wall area 2h)·(wall→sky = wall→road view) equals (road width)·(road→walls view),
    i.e. `2·a·wallConf = 1 − roadConf`. It holds for *any* value `s` returned for the root. -/
theorem vf_reciprocity (a s : K) (ha : a ≠ 0) :
    2 * a * wallConfOf s a = 1 - roadConfOf s a := by
  unfold wallConfOf roadConfOf
  field_simp
  ring

theorem vf_bounds (a s : K) (ha : 0 < a) (hs : s * s = a * a + 1) (hs0 : 0 ≤ s) :
    0 < roadConfOf s a ∧ roadConfOf s a < 1 ∧ 0 < wallConfOf s a ∧ wallConfOf s a < 1 / 2 := by
  obtain ⟨h1, h2, h3⟩ := root_bounds ha hs hs0
  unfold roadConfOf wallConfOf
  refine ⟨by linarith, by linarith, ?_, ?_⟩
  · apply div_pos _ ha
    linarith
  · rw [div_lt_iff₀ ha]
    linarith

/-- The view factors as shares of a surface's view: the road sees sky `roadConf` and walls
    `1 − roadConf`; a wall sees sky and road (`wallConf` each) and the opposite wall
    `1 − 2·wallConf`. With the remainders written this way the two sums are 1 for any values
    (conjuncts 1 and 4 hold by `ring`); the content is that every share is non-negative, a
    weakening of `vf_bounds`. -/
theorem vf_closure (a s : K) (ha : 0 < a) (hs : s * s = a * a + 1) (hs0 : 0 ≤ s) :
    roadConfOf s a + (1 - roadConfOf s a) = 1 ∧ 0 ≤ roadConfOf s a ∧ 0 ≤ 1 - roadConfOf s a ∧
    wallConfOf s a + wallConfOf s a + (1 - 2 * wallConfOf s a) = 1 ∧ 0 ≤ wallConfOf s a ∧
    0 ≤ 1 - 2 * wallConfOf s a := by
  obtain ⟨h1, h2, h3, h4⟩ := vf_bounds a s ha hs hs0
  refine ⟨by ring, h1.le, by linarith, by ring, h3.le, by linarith⟩

/-- T1 for the object `UCMDef.__init__` builds: reciprocity always; bounds when the symbol
    `pow(·, 0.5)` returns the true root at the aspect ratio. -/
theorem vf_of_ucm (S : Sym K) (h dens vth tree veg : K) (g : Geom K)
    (hg : ucmGeometry S h dens vth tree veg = .ok g) :
    2 * g.canAspect * g.wallConf = 1 - g.roadConf ∧
    (0 < g.canAspect →
      S.rpow (g.canAspect ^ 2 + 1) (1 / 2) * S.rpow (g.canAspect ^ 2 + 1) (1 / 2)
        = g.canAspect * g.canAspect + 1 →
      0 ≤ S.rpow (g.canAspect ^ 2 + 1) (1 / 2) →
      0 < g.roadConf ∧ g.roadConf < 1 ∧ 0 < g.wallConf ∧ g.wallConf < 1 / 2) := by
  obtain ⟨⟨-, -, -, -, -, ha⟩, -, -, -, -, -, hr, hw, -⟩ := ucmGeometry_ok hg
  rw [hr, hw]
  exact ⟨vf_reciprocity _ _ ha, fun ha' hs hs0 => vf_bounds _ _ ha' hs hs0⟩

/-! ## T2 — beam partition -/

/-- Straight from the `min`/`abs` structure, for every aspect, sun position and symbol values:
    the road and wall fractions of the beam never add up to more than the beam, and the wall
    fraction is a fraction. -/
theorem beam_budget (S : Sym K) (a θ tz : K) :
    krTerm S a θ tz + 2 * a * kwTerm S a θ tz ≤ 1 ∧
    0 ≤ kwTerm S a θ tz ∧ kwTerm S a θ tz ≤ 1 := by
  refine ⟨?_, le_min (abs_nonneg _) zero_le_one, min_le_right _ _⟩
  have : krTerm S a θ tz ≤ 1 - 2 * a * kwTerm S a θ tz := min_le_right _ _
  linarith

/-- The unclamped expressions split the beam exactly: road share + 2a·wall share = 1 for every
    critical orientation `θ` and zenith tangent (pure algebra in the symbols). -/
theorem beam_identity (S : Sym K) (a θ tz : K) (ha : a ≠ 0) (hpi : S.pi ≠ 0) :
    krRaw S a θ tz + 2 * a * kwRaw S a θ tz = 1 := by
  unfold krRaw kwRaw
  field_simp
  ring

/-- When the unclamped road share is a genuine fraction, the clamps do not bite on the road
    (`Kr` *is* the orientation-averaged expression, in particular `Kr ≥ 0`), the wall share is the
    expression capped at 1, and unless that cap bites nothing of the beam is lost. -/
theorem beam_exact (S : Sym K) (a θ tz : K) (ha : 0 < a) (hpi : S.pi ≠ 0)
    (h0 : 0 ≤ krRaw S a θ tz) (h1 : krRaw S a θ tz ≤ 1) :
    krTerm S a θ tz = krRaw S a θ tz ∧ 0 ≤ krTerm S a θ tz ∧
    kwTerm S a θ tz = min (kwRaw S a θ tz) 1 ∧
    (kwRaw S a θ tz ≤ 1 → krTerm S a θ tz + 2 * a * kwTerm S a θ tz = 1) := by
  have hid := beam_identity S a θ tz ha.ne' hpi
  have hkw0 : 0 ≤ kwRaw S a θ tz :=
    nonneg_of_mul_nonneg_right (by linarith : 0 ≤ 2 * a * kwRaw S a θ tz) (by linarith)
  have hkw : kwTerm S a θ tz = min (kwRaw S a θ tz) 1 := by
    unfold kwTerm; rw [abs_of_nonneg hkw0]
  have hle : kwTerm S a θ tz ≤ kwRaw S a θ tz := by rw [hkw]; exact min_le_left _ _
  have hkr : krTerm S a θ tz = krRaw S a θ tz := by
    unfold krTerm
    rw [abs_of_nonneg h0]
    apply min_eq_left
    have : 2 * a * kwTerm S a θ tz ≤ 2 * a * kwRaw S a θ tz :=
      mul_le_mul_of_nonneg_left hle (by linarith)
    linarith
  refine ⟨hkr, by rw [hkr]; exact h0, hkw, fun hc => ?_⟩
  rw [hkr, hkw, min_eq_left hc]
  exact hid

omit [IsStrictOrderedRing K] in
/-- The model's own "entering" amount is the beam split plus the diffuse sky view. -/
theorem entering_eq_beam_dif (S : Sym K) (i : SolarIn K) :
    entering i.canAspect (roadSolOf S i) (bldSolOf S i) =
      horSolOf S i * (krTerm S i.canAspect i.critOrient i.tanzen +
        2 * i.canAspect * kwTerm S i.canAspect i.critOrient i.tanzen) +
      i.dif * (i.roadConf + 2 * i.canAspect * i.wallConf) := by
  unfold entering roadSolOf bldSolOf
  ring

/-- The short-wave entering the canyon never exceeds the incoming horizontal beam plus diffuse,
    and the horizontal beam never exceeds the direct-normal beam (given `cos z ≤ 1`). -/
theorem entering_le_incoming (S : Sym K) (i : SolarIn K)
    (hrec : 2 * i.canAspect * i.wallConf = 1 - i.roadConf) :
    entering i.canAspect (roadSolOf S i) (bldSolOf S i) ≤ horSolOf S i + i.dif ∧
    (0 ≤ i.dir → S.cos i.zenith ≤ 1 → horSolOf S i ≤ i.dir) := by
  constructor
  · have hb := (beam_budget S i.canAspect i.critOrient i.tanzen).1
    have hh : 0 ≤ horSolOf S i := le_max_right _ _
    have h1 := mul_le_mul_of_nonneg_left hb hh
    rw [entering_eq_beam_dif, show i.roadConf + 2 * i.canAspect * i.wallConf = 1 by linarith]
    linarith
  · intro hd hc
    unfold horSolOf
    apply max_le _ hd
    calc S.cos i.zenith * i.dir ≤ 1 * i.dir := mul_le_mul_of_nonneg_right hc hd
      _ = i.dir := one_mul _

/-! ## T4 — received short-wave is non-negative, and zero without sun -/

/-- Physical ranges of the inputs of `solarcalcs` used by the sign statements. -/
structure Admissible (i : SolarIn K) : Prop where
  dir : 0 ≤ i.dir
  dif : 0 ≤ i.dif
  rc0 : 0 ≤ i.roadConf
  rc1 : i.roadConf ≤ 1
  wc0 : 0 < i.wallConf
  wc1 : 2 * i.wallConf ≤ 1
  ra0 : 0 ≤ i.roadAlbedo
  ra1 : i.roadAlbedo ≤ 1
  va0 : 0 ≤ i.vegAlbedo
  va1 : i.vegAlbedo ≤ 1
  rv0 : 0 ≤ i.roadVeg
  rv1 : i.roadVeg ≤ 1
  wa0 : 0 ≤ i.albWall
  wa1 : i.albWall ≤ 1

theorem albRoad_mem {i : SolarIn K} (h : Admissible i) : 0 ≤ albRoad i ∧ albRoad i ≤ 1 := by
  unfold albRoad
  split_ifs
  · exact ⟨h.ra0, h.ra1⟩
  · -- a mean of the two albedos with weights `1 − roadVeg` and `roadVeg`
    have := (Between.single (sub_nonneg.mpr h.rv1) ⟨h.ra0, h.ra1⟩).add
      (Between.single h.rv0 ⟨h.va0, h.va1⟩)
    rwa [Between, sub_add_cancel, zero_mul, mul_one] at this

/-- The denominator of either closure is strictly positive for admissible inputs
    (from `α_w ≤ 1` and the view-factor bounds), so the division never fails. -/
theorem fr_pos (cl : Closure) {i : SolarIn K} (h : Admissible i) :
    0 < frOf cl i.roadConf i.wallConf (albRoad i) i.albWall := by
  obtain ⟨h0, h1⟩ := albRoad_mem h
  cases cl with
  | impl => exact frImpl_pos h.rc1 h.wc0 h.wc1 h0 h.wa0 h.wa1
  | spec => exact frSpec_pos h.rc0 h.wc0 h.wc1 h0 h1 h.wa0 h.wa1

theorem firstIncidence_nonneg (S : Sym K) (i : SolarIn K) (h : Admissible i)
    (hkr : 0 ≤ krTerm S i.canAspect i.critOrient i.tanzen ∨ horSolOf S i = 0) :
    0 ≤ roadSolOf S i ∧ 0 ≤ bldSolOf S i := by
  have hh : 0 ≤ horSolOf S i := le_max_right _ _
  have hkw := (beam_budget S i.canAspect i.critOrient i.tanzen).2.1
  refine ⟨?_, add_nonneg (mul_nonneg hh hkw) (mul_nonneg h.wc0.le h.dif)⟩
  unfold roadSolOf
  rcases hkr with hk | hz
  · exact add_nonneg (mul_nonneg hh hk) (mul_nonneg h.rc0 h.dif)
  · rw [hz, zero_mul, zero_add]
    exact mul_nonneg h.rc0 h.dif

/-- For admissible inputs and a non-negative road share of the beam (or no beam at all: sun at or
    below the horizon, where the share is irrelevant), the sunlit branch gives
    every surface (road, rural, roofs, walls, and the three canyon aggregates) a non-negative
    amount of solar radiation — for the coded closure and for the radiosity closure. -/
theorem received_nonneg (cl : Closure) (S : Sym K) (i : SolarIn K) (h : Admissible i)
    (hkr : 0 ≤ krTerm S i.canAspect i.critOrient i.tanzen ∨ horSolOf S i = 0) :
    0 ≤ (sunlit cl S i).roadRec ∧ 0 ≤ (sunlit cl S i).ruralRec ∧ 0 ≤ (sunlit cl S i).roofRec ∧
    0 ≤ (sunlit cl S i).wallRec ∧ 0 ≤ (sunlit cl S i).solRecRoof ∧
    0 ≤ (sunlit cl S i).solRecRoad ∧ 0 ≤ (sunlit cl S i).solRecWall := by
  obtain ⟨hR, hB⟩ := firstIncidence_nonneg S i h hkr
  obtain ⟨hroad, hwall⟩ := roadRec_wallRec_nonneg (fr_pos cl h) h.rc1 h.wc0.le h.wc1
    (albRoad_mem h).1 h.wa0 hR hB
  have hsum : 0 ≤ horSolOf S i + i.dif := add_nonneg (le_max_right _ _) h.dif
  exact ⟨hroad, hsum, hsum, hwall, hsum, hroad,
    add_nonneg hB (mul_nonneg (mul_nonneg (sub_nonneg.mpr h.wc1) h.ra0) hR)⟩

/-- The shape of both vegetation heats: `(1−α)·x·R·tree + (1−α)·y·R·grass`. -/
theorem veg_heat_nonneg {va x y R tc gc : K} (hva : va ≤ 1) (hx : 0 ≤ x) (hy : 0 ≤ y)
    (hR : 0 ≤ R) (htc : 0 ≤ tc) (hgc : 0 ≤ gc) :
    0 ≤ (1 - va) * x * R * tc + (1 - va) * y * R * gc :=
  have hva' := sub_nonneg.mpr hva
  add_nonneg (mul_nonneg (mul_nonneg (mul_nonneg hva' hx) hR) htc)
    (mul_nonneg (mul_nonneg (mul_nonneg hva' hy) hR) hgc)

/-- The tree/grass heat derived from the road's received radiation (reset to zero outside the
    vegetation season) is non-negative as well when
    the tree cover does not exceed the vegetated cover and the latent fractions are fractions. -/
theorem tree_heat_nonneg (cl : Closure) (S : Sym K) (i : SolarIn K) (h : Admissible i)
    (hkr : 0 ≤ krTerm S i.canAspect i.critOrient i.tanzen ∨ horSolOf S i = 0)
    (ht0 : 0 ≤ i.treeCoverage) (ht1 : i.treeCoverage ≤ i.vegcover)
    (hf0 : 0 ≤ i.treeFLat) (hf1 : i.treeFLat ≤ 1) (hg0 : 0 ≤ i.grassFLat) (hg1 : i.grassFLat ≤ 1) :
    0 ≤ (sunlit cl S i).treeSens ∧ 0 ≤ (sunlit cl S i).treeLat := by
  obtain ⟨hroad, -⟩ := received_nonneg cl S i h hkr
  have hgc : 0 ≤ i.vegcover - i.treeCoverage := sub_nonneg.mpr ht1
  exact ⟨ite_nonneg le_rfl
      (veg_heat_nonneg h.va1 (sub_nonneg.mpr hf1) (sub_nonneg.mpr hg1) hroad ht0 hgc),
    ite_nonneg le_rfl (veg_heat_nonneg h.va1 hf0 hg0 hroad ht0 hgc)⟩

/-- For admissible inputs with any sun at all and a non-zero aspect, `solarcalcs` does not raise
    and returns the sunlit result (so `received_nonneg` is about what the routine returns). -/
theorem solarcalcs_sunlit (cl : Closure) (S : Sym K) (i : SolarIn K) (h : Admissible i)
    (hsun : 0 < i.dir + i.dif) (ha : i.canAspect ≠ 0) :
    solarcalcs cl S i = .ok (sunlit cl S i) := by
  unfold solarcalcs
  rw [if_pos hsun, if_neg ha, if_neg (fr_pos cl h).ne']

omit [IsStrictOrderedRing K] in
/-- Whenever the weather file reports no sun (`dir + dif ≤ 0`), `solarcalcs` succeeds and every
    received amount, every canyon aggregate and the vegetation heat are exactly zero. -/
theorem no_sun_zero (cl : Closure) (S : Sym K) (i : SolarIn K) (h : i.dir + i.dif ≤ 0) :
    ∃ o, solarcalcs cl S i = .ok o ∧ o.roadRec = 0 ∧ o.ruralRec = 0 ∧ o.roofRec = 0 ∧
      o.wallRec = 0 ∧ o.solRecRoof = 0 ∧ o.solRecRoad = 0 ∧ o.solRecWall = 0 ∧
      o.treeSens = 0 ∧ o.treeLat = 0 := by
  refine ⟨noSun, ?_, rfl, rfl, rfl, rfl, rfl, rfl, rfl, rfl, rfl⟩
  unfold solarcalcs
  rw [if_neg (not_lt.mpr h)]

/-! ## T5, T6 — long-wave exchange -/

/-- The wall↔road exchange terms of `infracalcs` are equal and opposite when weighted by the
    areas: (road width)·(road←wall) + (two walls of height h)·(wall←road) = 0.
    Both coded terms carry the same factor `(1 − roadShad)`, so the plain weights `w` and `2h`
    make this exact (no extra shading weight is needed); it uses only reciprocity. -/
theorem lw_antisymmetric (i : InfraIn K) (w h a : K) (hh : h = a * w)
    (hrec : 2 * a * i.wallConf = 1 - i.roadConf) :
    w * lwRoadFromWall i + 2 * h * lwWallFromRoad i = 0 := by
  subst hh
  unfold lwRoadFromWall lwWallFromRoad
  linear_combination
    (-(w * (1 - i.roadShad) * i.eWall * i.eRoad * sigma * (i.tWall ^ 4 - i.tRoad ^ 4))) * hrec

/-- Hence the area-weighted sum of the two returned fluxes is the net exchange with the sky. -/
theorem lw_budget (i : InfraIn K) (w h a : K) (hh : h = a * w)
    (hrec : 2 * a * i.wallConf = 1 - i.roadConf) :
    w * (infracalcs i).1 + 2 * h * (infracalcs i).2 = w * lwRoadSky i + 2 * h * lwWallSky i := by
  have := lw_antisymmetric i w h a hh hrec
  unfold infracalcs
  simp only
  linear_combination this

omit [LinearOrder K] [IsStrictOrderedRing K] in
/-- At thermal equilibrium with the sky (road and wall at `T`, sky long-wave `σT⁴`) both fluxes
    returned by `infracalcs` vanish. -/
theorem lw_equilibrium (i : InfraIn K) (T : K) (hr : i.tRoad = T) (hw : i.tWall = T)
    (hsky : i.infra = sigma * T ^ 4) : infracalcs i = (0, 0) := by
  unfold infracalcs lwRoadSky lwRoadFromWall lwWallSky lwWallFromRoad
  rw [hr, hw, hsky]
  simp

/-! ## T7 — the coded closure: exact characterisation of "absorbed ≤ entering" -/

/-- The short-wave absorbed by road and walls under the coded closure is linear in the two
    first-incidence amounts, with the explicit coefficients `cR`, `cB` of `Model/Canyon.lean`. -/
theorem absorbed_linear {a Ψr Ψw αr αw R B : K} (ha : a ≠ 0) :
    absorbedOf .impl a Ψr Ψw αr αw R B = cR a Ψr Ψw αr αw * R + cB a Ψr Ψw αr αw * (2 * a * B) := by
  unfold absorbedOf absorbed roadRecOf wallRecOf mwOf mrOf cR cB frOf
  field_simp
  ring

/-- `cR` and `cB` are what the coded closure absorbs of a unit of light on the road / of a unit
    of light (per unit road width) on the walls. -/
theorem cR_cB_meaning (a Ψr Ψw αr αw : K) (ha : a ≠ 0) :
    cR a Ψr Ψw αr αw = absorbedOf .impl a Ψr Ψw αr αw 1 0 ∧
    cB a Ψr Ψw αr αw = absorbedOf .impl a Ψr Ψw αr αw 0 (1 / (2 * a)) := by
  constructor
  · rw [absorbed_linear ha]; ring
  · rw [absorbed_linear ha, mul_one_div_cancel (mul_ne_zero two_ne_zero ha)]; ring

/-- **Exact characterisation.** The coded closure absorbs no more than enters for *all*
    non-negative first-incidence amounts iff `cR ≤ 1` and `cB ≤ 1`. -/
theorem absorbed_le_entering_iff (a Ψr Ψw αr αw : K) (ha : 0 < a) :
    (∀ R B : K, 0 ≤ R → 0 ≤ B → absorbedOf .impl a Ψr Ψw αr αw R B ≤ entering a R B) ↔
    (cR a Ψr Ψw αr αw ≤ 1 ∧ cB a Ψr Ψw αr αw ≤ 1) := by
  simp only [absorbed_linear ha.ne']
  exact linear_le_entering_iff ha

/-- Light first incident on the walls is never over-counted: `cB ≤ 1` for every admissible
    geometry and albedo pair. So the coded closure creates energy exactly when `cR > 1`. -/
theorem cB_le_one (a Ψr Ψw αr αw : K) (ha : 0 < a) (hrec : 2 * a * Ψw = 1 - Ψr)
    (hΨr : 0 ≤ Ψr) (hΨr1 : Ψr ≤ 1) (hΨw : 0 < Ψw) (hΨw2 : 2 * Ψw ≤ 1)
    (hαr : 0 ≤ αr) (hαw : 0 ≤ αw) (hαw1 : αw ≤ 1) : cB a Ψr Ψw αr αw ≤ 1 := by
  have hfr := frImpl_pos hΨr1 hΨw hΨw2 hαr hαw hαw1
  have h0 : 0 ≤ 1 - Ψr := sub_nonneg.mpr hΨr1
  have hΨw' := hΨw.le
  rw [cB_eq ha.ne' hrec hfr.ne', sub_le_self_iff]
  exact div_nonneg (by positivity) hfr.le

/-- Consequently (with `cB_le_one`) the whole question reduces to `cR`. -/
theorem absorbed_le_entering_iff_cR (a Ψr Ψw αr αw : K) (ha : 0 < a)
    (hrec : 2 * a * Ψw = 1 - Ψr) (hΨr : 0 ≤ Ψr) (hΨr1 : Ψr ≤ 1) (hΨw : 0 < Ψw)
    (hΨw2 : 2 * Ψw ≤ 1) (hαr : 0 ≤ αr) (hαw : 0 ≤ αw) (hαw1 : αw ≤ 1) :
    (∀ R B : K, 0 ≤ R → 0 ≤ B → absorbedOf .impl a Ψr Ψw αr αw R B ≤ entering a R B) ↔
    cR a Ψr Ψw αr αw ≤ 1 := by
  rw [absorbed_le_entering_iff a Ψr Ψw αr αw ha]
  exact ⟨fun h => h.1, fun h => ⟨h, cB_le_one a Ψr Ψw αr αw ha hrec hΨr hΨr1 hΨw hΨw2 hαr hαw hαw1⟩⟩

/-! ## T8 — the coded closure creates energy (known finding C13-reflection-closure) -/

/-- The witness of `asis_creates_energy` below as a statement about `cR`. -/
theorem asis_cR_gt_one :
    cR (180 / 19 : K) (1 / 19) (1 / 20) (3 / 10) (3 / 10) = 1986737 / 1893350 ∧
    (1 : K) < cR (180 / 19 : K) (1 / 19) (1 / 20) (3 / 10) (3 / 10) := by
  norm_num [cR, frImpl]

/-- **The property is false of the code as it stands.** In every ordered field there is an
    admissible canyon (aspect 180/19, true root 181/19, so view factors 1/19 and 1/20), albedos
    0.3/0.3 and a beam falling on the road only, for which the coded closure absorbs
    1986737/1893350 ≈ 1.049 times what enters. -/
theorem asis_creates_energy :
    ∃ a s αr αw R B : K, 0 < a ∧ s * s = a * a + 1 ∧ 0 ≤ s ∧ 0 ≤ αr ∧ αr ≤ 1 ∧ 0 ≤ αw ∧ αw ≤ 1 ∧
      0 ≤ R ∧ 0 ≤ B ∧
      entering a R B < absorbedOf .impl a (roadConfOf s a) (wallConfOf s a) αr αw R B := by
  refine ⟨180 / 19, 181 / 19, 3 / 10, 3 / 10, 1, 0, by norm_num, by norm_num, by norm_num,
    by norm_num, by norm_num, by norm_num, by norm_num, zero_le_one, le_rfl, ?_⟩
  have hr : roadConfOf (181 / 19 : K) (180 / 19) = 1 / 19 := by norm_num [roadConfOf]
  have hw : wallConfOf (181 / 19 : K) (180 / 19) = 1 / 20 := by norm_num [wallConfOf]
  -- a unit beam on the road only: absorbed = cR, entering = 1
  rw [hr, hw, absorbed_linear (by norm_num), entering, mul_zero, mul_zero, add_zero,
    add_zero, mul_one]
  exact asis_cR_gt_one.2

/-- The witness geometry is produced by `UCMDef.__init__` itself: height 10, density 1/4, facade
    ratio 180/19, under any symbols that return the true roots at the two arguments used. -/
theorem asis_witness_geometry (S : Sym K) (tree veg : K)
    (h1 : S.sqrt (1 / 4) = 1 / 2) (h2 : S.rpow ((180 / 19) ^ 2 + 1) (1 / 2) = 181 / 19) :
    ∃ g, ucmGeometry S 10 (1 / 4) (180 / 19) tree veg = .ok g ∧ g.canAspect = 180 / 19 ∧
      g.roadConf = 1 / 19 ∧ g.wallConf = 1 / 20 := by
  obtain ⟨g, hg⟩ := ucmGeometry_returns (S := S) (h := 10) (dens := 1 / 4) (vth := 180 / 19)
    tree veg (by norm_num) (by norm_num) (by norm_num) (by rw [h1]; norm_num)
    (by rw [h1]; norm_num) (by rw [h1]; norm_num)
  obtain ⟨-, -, -, ebw, ecw, ea, er, ew, -⟩ := ucmGeometry_ok hg
  have ha : g.canAspect = 180 / 19 := by
    rw [ea, ecw, ebw, h1]
    norm_num
  rw [ha, h2] at er ew
  exact ⟨g, hg, ha, by rw [er]; norm_num [roadConfOf], by rw [ew]; norm_num [wallConfOf]⟩

/-! ## T7 (specification) — the radiosity closure conserves energy -/

omit [LinearOrder K] [IsStrictOrderedRing K] in
/-- `Closure.spec` is the radiosity fixed point: the reflected fluxes `jr`, `jw` leaving road and
    wall are the albedo times what each receives, and what each receives is first incidence plus
    the other surfaces' reflected fluxes weighted by the view factors. -/
theorem spec_fixed_point (Ψr Ψw αr αw R B : K) (hfr : frSpec Ψr Ψw αr αw ≠ 0) :
    mrOf .spec Ψr Ψw αr αw R B = αr * roadRecOf .spec Ψr Ψw αr αw R B ∧
    mwOf .spec Ψr Ψw αr αw R B = αw * wallRecOf .spec Ψr Ψw αr αw R B := by
  constructor
  · unfold mrOf roadRecOf; ring
  · simp only [wallRecOf, mrOf, mwOf, frOf]
    field_simp
    unfold frSpec
    ring

/-- Energy balance of the radiosity closure: absorbed + escaped through the canyon top =
    entering (uses only reciprocity). -/
theorem spec_balance (a Ψr Ψw αr αw R B : K) (hrec : 2 * a * Ψw = 1 - Ψr)
    (hfr : frSpec Ψr Ψw αr αw ≠ 0) :
    absorbedOf .spec a Ψr Ψw αr αw R B +
      escaped a Ψr Ψw (mrOf .spec Ψr Ψw αr αw R B) (mwOf .spec Ψr Ψw αr αw R B) =
    entering a R B := by
  obtain ⟨h1, h2⟩ := spec_fixed_point Ψr Ψw αr αw R B hfr
  simp only [absorbedOf, absorbed, escaped, entering, roadRecOf, wallRecOf] at h1 h2 ⊢
  -- the two fixed-point equations turn `α·received` into `reflected`; the rest is reciprocity
  linear_combination h1 + 2 * a * h2
    + (mrOf .spec Ψr Ψw αr αw R B - mwOf .spec Ψr Ψw αr αw R B) * hrec

/-- **Total absorbed short-wave never exceeds what enters the canyon** — for the radiosity
    closure, every admissible geometry/albedo pair and all non-negative first incidences. -/
theorem absorbed_le_entering_spec (a Ψr Ψw αr αw R B : K) (ha : 0 < a)
    (hrec : 2 * a * Ψw = 1 - Ψr) (hΨr : 0 ≤ Ψr) (hΨr1 : Ψr ≤ 1) (hΨw : 0 < Ψw)
    (hΨw2 : 2 * Ψw ≤ 1) (hαr : 0 ≤ αr) (hαr1 : αr ≤ 1) (hαw : 0 ≤ αw) (hαw1 : αw ≤ 1)
    (hR : 0 ≤ R) (hB : 0 ≤ B) :
    absorbedOf .spec a Ψr Ψw αr αw R B ≤ entering a R B := by
  have hfr : 0 < frOf .spec Ψr Ψw αr αw := frSpec_pos hΨr hΨw hΨw2 hαr hαr1 hαw hαw1
  -- absorbed = entering − escaped, and what escapes is non-negative
  rw [← spec_balance a Ψr Ψw αr αw R B hrec hfr.ne', le_add_iff_nonneg_right]
  exact add_nonneg (mul_nonneg hΨr (mr_nonneg hfr hΨr1 hΨw.le hαr hαw hR hB))
    (mul_nonneg (mul_nonneg (mul_nonneg zero_le_two ha.le) hΨw.le)
      (mw_nonneg hfr hΨw.le hαr hαw hR hB))

/-
Full-strength statement of the short-wave clause for the routine, for a closure `cl`:

    ∀ S i, Admissible i → 0 < i.canAspect → 2·a·Ψw = 1 − Ψr → 0 ≤ Kr →
      absorbed a (albRoad i) αw (sunlit cl S i).roadRec (sunlit cl S i).wallRec
        ≤ (sunlit cl S i).horSol + i.dif

It is FALSE for `cl = .impl` (the code as it stands): `asis_creates_energy`, exact condition
`absorbed_le_entering_iff_cR`. It is proved for `cl = .spec`:
-/

/-- With the radiosity closure, what road and walls absorb in the sunlit branch of `solarcalcs`
    never exceeds the horizontal beam plus diffuse radiation arriving at the canyon top. -/
theorem solar_absorbed_le_incoming_spec (S : Sym K) (i : SolarIn K) (h : Admissible i)
    (ha : 0 < i.canAspect) (hrec : 2 * i.canAspect * i.wallConf = 1 - i.roadConf)
    (hkr : 0 ≤ krTerm S i.canAspect i.critOrient i.tanzen ∨ horSolOf S i = 0) :
    absorbed i.canAspect (albRoad i) i.albWall (sunlit .spec S i).roadRec
      (sunlit .spec S i).wallRec ≤ (sunlit .spec S i).horSol + i.dif := by
  obtain ⟨hR, hB⟩ := firstIncidence_nonneg S i h hkr
  obtain ⟨ha0, ha1⟩ := albRoad_mem h
  exact (absorbed_le_entering_spec i.canAspect i.roadConf i.wallConf (albRoad i) i.albWall
    (roadSolOf S i) (bldSolOf S i) ha hrec h.rc0 h.rc1 h.wc0 h.wc1 ha0 ha1 h.wa0 h.wa1 hR hB).trans
    (entering_le_incoming S i hrec).1

/-! ## T3 and the symbol hypotheses discharged for the real functions -/

section real
open Real

/-- `pow(x, 0.5)` interpreted in ℝ is the true non-negative root. -/
theorem real_root (a : ℝ) :
    realSym.rpow (a ^ 2 + 1) (1 / 2) * realSym.rpow (a ^ 2 + 1) (1 / 2) = a * a + 1 ∧
    0 ≤ realSym.rpow (a ^ 2 + 1) (1 / 2) := by
  have hx : (0 : ℝ) ≤ a ^ 2 + 1 := by positivity
  have e : realSym.rpow (a ^ 2 + 1) (1 / 2) = Real.sqrt (a ^ 2 + 1) := (Real.sqrt_eq_rpow _).symm
  rw [e]
  exact ⟨by rw [Real.mul_self_sqrt hx]; ring, Real.sqrt_nonneg _⟩

/-- T1 over the reals, no hypothesis on the symbols left. -/
theorem vf_real (a : ℝ) (ha : 0 < a) :
    2 * a * wallConfOf (realSym.rpow (a ^ 2 + 1) (1 / 2)) a
      = 1 - roadConfOf (realSym.rpow (a ^ 2 + 1) (1 / 2)) a ∧
    0 < roadConfOf (realSym.rpow (a ^ 2 + 1) (1 / 2)) a ∧
    roadConfOf (realSym.rpow (a ^ 2 + 1) (1 / 2)) a < 1 ∧
    0 < wallConfOf (realSym.rpow (a ^ 2 + 1) (1 / 2)) a ∧
    wallConfOf (realSym.rpow (a ^ 2 + 1) (1 / 2)) a < 1 / 2 := by
  obtain ⟨h1, h2⟩ := real_root a
  exact ⟨vf_reciprocity _ _ ha.ne', vf_bounds a _ ha h1 h2⟩

/-- T0 over the reals, no hypothesis on the symbols left. -/
theorem geometry_positive_real (h dens vth tree veg : ℝ)
    (hh : 0 < h) (hd0 : 0 < dens) (hd1 : dens < 1) (hv : 0 < vth) :
    ∃ g, ucmGeometry realSym h dens vth tree veg = .ok g ∧ 0 < g.canWidth ∧ 0 < g.canAspect ∧
      h = g.canAspect * g.canWidth :=
  geometry_positive realSym h dens vth tree veg hh hd0 hd1 hv
    (Real.mul_self_sqrt hd0.le) (Real.sqrt_pos.mpr hd0)

theorem one_sub_cos_le_sin_sq {θ : ℝ} (hc : 0 ≤ cos θ) : 1 - cos θ ≤ sin θ ^ 2 := by
  rw [Real.sin_sq]
  exact sub_le_sub_left (pow_le_of_le_one hc (Real.cos_le_one θ) two_ne_zero) 1

theorem krRaw_real_mem_of_sin_le {a tz θ : ℝ} (hc : 0 ≤ a * tz) (h0 : 0 ≤ θ) (h1 : θ ≤ π / 2)
    (hs : a * tz * sin θ ≤ 1) :
    0 ≤ krRaw realSym a θ tz ∧ krRaw realSym a θ tz ≤ 1 := by
  have hpi := Real.pi_pos
  have hnn : 0 ≤ a * tz * (1 - cos θ) := mul_nonneg hc (sub_nonneg.mpr (Real.cos_le_one θ))
  have hcos : 0 ≤ cos θ := Real.cos_nonneg_of_mem_Icc ⟨by linarith, h1⟩
  have hsin : 0 ≤ sin θ := Real.sin_nonneg_of_nonneg_of_le_pi h0 (by linarith)
  have key : a * tz * (1 - cos θ) ≤ θ :=
    calc a * tz * (1 - cos θ) ≤ a * tz * sin θ ^ 2 :=
          mul_le_mul_of_nonneg_left (one_sub_cos_le_sin_sq hcos) hc
      _ = a * tz * sin θ * sin θ := by ring
      _ ≤ sin θ := mul_le_of_le_one_left hsin hs
      _ ≤ θ := Real.sin_le h0
  have e : krRaw realSym a θ tz = 2 / π * (θ - a * tz * (1 - cos θ)) := by
    show 2 * θ / π - 2 / π * a * tz * (1 - cos θ) = _
    ring
  rw [e]
  refine ⟨mul_nonneg (by positivity) (sub_nonneg.mpr key), ?_⟩
  calc 2 / π * (θ - a * tz * (1 - cos θ)) ≤ 2 / π * (π / 2) :=
        mul_le_mul_of_nonneg_left (by linarith) (by positivity)
    _ = 1 := by field_simp

/-- T3. With the real `asin`, `cos`, `π`: for every positive aspect and every positive zenith
    tangent (sun above the horizon; this covers the three `tanzen` branches of `solarangles`),
    at the critical orientation the code computes, the unclamped road share of the beam is a
    genuine fraction. -/
theorem krRaw_real_bounds (a tz : ℝ) (ha : 0 < a) (htz : 0 < tz) :
    0 ≤ krRaw realSym a (realSym.asin (min (|1 / tz| / a) 1)) tz ∧
    krRaw realSym a (realSym.asin (min (|1 / tz| / a) 1)) tz ≤ 1 := by
  -- x := min(1/(tz·a), 1) ∈ [0, 1], θ := arcsin x, so sin θ = x and a·tz·x ≤ 1
  have habs : |1 / tz| / a = 1 / (tz * a) := by
    rw [abs_of_pos (by positivity)]
    field_simp
  have hx0 : 0 ≤ min (1 / (tz * a)) 1 := le_min (by positivity) zero_le_one
  have hx1 : min (1 / (tz * a)) 1 ≤ 1 := min_le_right _ _
  rw [habs]
  refine krRaw_real_mem_of_sin_le (by positivity) (Real.arcsin_nonneg.mpr hx0)
    (Real.arcsin_le_pi_div_two _) ?_
  show a * tz * sin (Real.arcsin _) ≤ 1
  rw [Real.sin_arcsin (by linarith) hx1]
  calc a * tz * min (1 / (tz * a)) 1 ≤ a * tz * (1 / (tz * a)) :=
        mul_le_mul_of_nonneg_left (min_le_left _ _) (by positivity)
    _ = 1 := by field_simp

/-- T4 over the reals, with the hypothesis on `Kr` discharged: for admissible inputs, the
    critical orientation as `solarangles` computes it, and the sun either above the horizon
    (`tanzen > 0`) or at/below it (`cos zenith ≤ 0`, so no horizontal beam), every received
    amount of the sunlit branch is non-negative. -/
theorem received_nonneg_real (cl : Closure) (i : SolarIn ℝ) (h : Admissible i)
    (ha : 0 < i.canAspect)
    (hcrit : i.critOrient = realSym.asin (min (|1 / i.tanzen| / i.canAspect) 1))
    (hsun : 0 < i.tanzen ∨ Real.cos i.zenith ≤ 0) :
    0 ≤ (sunlit cl realSym i).roadRec ∧ 0 ≤ (sunlit cl realSym i).ruralRec ∧
    0 ≤ (sunlit cl realSym i).roofRec ∧ 0 ≤ (sunlit cl realSym i).wallRec ∧
    0 ≤ (sunlit cl realSym i).solRecRoof ∧ 0 ≤ (sunlit cl realSym i).solRecRoad ∧
    0 ≤ (sunlit cl realSym i).solRecWall := by
  apply received_nonneg cl realSym i h
  rcases hsun with htz | hc
  · left
    obtain ⟨h0, h1⟩ := krRaw_real_bounds i.canAspect i.tanzen ha htz
    rw [hcrit]
    exact (beam_exact realSym i.canAspect _ i.tanzen ha Real.pi_ne_zero h0 h1).2.1
  · right
    show max (Real.cos i.zenith * i.dir) 0 = 0
    exact max_eq_right (mul_nonpos_of_nonpos_of_nonneg hc h.dir)

end real

/-! ## Non-vacuity -/

/-- A concrete admissible canyon: aspect 4/3 (true root 5/3), view factors 1/3 and 1/4. -/
example : (0 : ℚ) < 4 / 3 ∧ (5 / 3 : ℚ) * (5 / 3) = 4 / 3 * (4 / 3) + 1 ∧
    roadConfOf (5 / 3 : ℚ) (4 / 3) = 1 / 3 ∧ wallConfOf (5 / 3 : ℚ) (4 / 3) = 1 / 4 ∧
    cR (4 / 3 : ℚ) (1 / 3) (1 / 4) (3 / 10) (3 / 10) ≤ 1 ∧
    absorbedOf .spec (4 / 3 : ℚ) (1 / 3) (1 / 4) (3 / 10) (3 / 10) 1 0 ≤ 1 := by
  decide +kernel

/-- `Admissible` is satisfiable together with sun, a positive aspect and reciprocity. -/
example : ∃ i : SolarIn ℚ, Admissible i ∧ 0 < i.dir + i.dif ∧ 0 < i.canAspect ∧
    2 * i.canAspect * i.wallConf = 1 - i.roadConf := by
  refine ⟨{ dir := 500, dif := 100, zenith := 0, tanzen := 1, critOrient := 1, canAspect := 4 / 3,
            roadConf := 1 / 3, wallConf := 1 / 4, month := 6, vegStart := 4, vegEnd := 10,
            roadAlbedo := 1 / 10, roadVeg := 1 / 5, vegAlbedo := 1 / 4, albWall := 1 / 5,
            treeCoverage := 1 / 10, vegcover := 3 / 20, treeFLat := 1 / 2, grassFLat := 1 / 2 },
          ?_, ?_, ?_, ?_⟩
  · constructor <;> norm_num
  all_goals norm_num

end Uwg.C13
