/-
Property theorems about `Weather.__init__` (model `Uwg.Weather.read`): the station record of a rural row is a
function of that row's ten modelled cells and of nothing else (C02: a record holds the values of its row; C03: rows
after the record, rows outside the window and unmodelled columns cannot influence it; C09: the humidity ratio of the
forcing is the psychrometric function of the row's RH, temperature and pressure).
-/
import UwgVerif.Model.Weather
import UwgVerif.Lemmas.Except
import UwgVerif.Lemmas.Forall2

namespace Uwg.Weather
open Uwg.C06

/-! ### what a returning reader went through -/

theorem mapE_eq_ok {α β ε : Type} {f : α → Except ε β} {l : List α} {ys : List β} :
    mapE f l = .ok ys ↔ List.Forall₂ (fun a b => f a = .ok b) l ys := by
  induction l generalizing ys with
  | nil => cases ys <;> simp [mapE]
  | cons a as ih =>
    unfold mapE
    cases hfa : f a with
    | error e => cases ys <;> simp [hfa]
    | ok b =>
      cases hrs : mapE f as with
      | error e => cases ys <;> simp [hfa, ← ih, hrs]
      | ok bs => cases ys <;> simp [hfa, ← ih, hrs]

theorem mapE_eq_map {α β ε : Type} (f : α → Except ε β) (l : List α) : mapE f l = mapE id (l.map f) := by
  induction l with
  | nil => rfl
  | cons a as ih => simp only [List.map_cons, mapE, ih, id]

theorem cell_eq_ok {r : Row} {j : Nat} {v : Val} :
    cell r j = .ok v ↔ ∃ c, r[j]? = some c ∧ str2flCell c = v := by
  unfold cell
  cases r[j]? <;> simp

theorem extract_eq_ok {r : Row} {w : Raw} :
    extract r = .ok w ↔
      cell r 6 = .ok w.temp ∧ cell r 7 = .ok w.tdp ∧ cell r 8 = .ok w.rhum ∧ cell r 9 = .ok w.pres ∧
      cell r 12 = .ok w.infra ∧ cell r 13 = .ok w.hor ∧ cell r 14 = .ok w.dir ∧ cell r 15 = .ok w.dif ∧
      cell r 20 = .ok w.udir ∧ cell r 21 = .ok w.umod := by
  simp only [extract, Except.bind_eq_ok, Except.pure_eq_ok]
  constructor
  · rintro ⟨_, h6, _, h7, _, h8, _, h9, _, h12, _, h13, _, h14, _, h15, _, h20, _, h21, rfl⟩
    exact ⟨h6, h7, h8, h9, h12, h13, h14, h15, h20, h21⟩
  · rintro ⟨h6, h7, h8, h9, h12, h13, h14, h15, h20, h21⟩
    exact ⟨_, h6, _, h7, _, h8, _, h9, _, h12, _, h13, _, h14, _, h15, _, h20, _, h21, rfl⟩

theorem finish_eq_ok {s : Sym ℚ} {w : Raw} {x : Rec} :
    finish s w = .ok x ↔ ∃ t rh p h, w.temp = .num t ∧ w.rhum = .num rh ∧ w.pres = .num p ∧ 0 < t + 273.15 ∧
      humFromRh s rh t p = .ok h ∧
      x = ⟨t + 273.15, w.tdp, rh, p, w.infra, w.hor, w.dir, w.dif, w.udir, w.umod, h, 0⟩ := by
  unfold finish
  constructor
  · intro hf
    -- every branch but the last raises
    split at hf
    · cases hf
    rename_i t ht
    split at hf
    · cases hf
    split at hf
    · cases hf
    rename_i hpos
    split at hf
    · cases hf
    rename_i rh hr
    split at hf
    · cases hf
    rename_i p hp
    split at hf
    · cases hf
    rename_i h hh
    cases hf
    exact ⟨t, rh, p, h, ht, hr, hp, not_le.1 hpos, hh, rfl⟩
  · rintro ⟨t, rh, p, h, ht, hr, hp, hpos, hh, rfl⟩
    simp [ht, hr, hp, hh, hpos.ne', not_le.2 hpos]

theorem rowRec_eq_ok {s : Sym ℚ} {r : Row} {x : Rec} :
    rowRec s r = .ok x ↔ ∃ w, extract r = .ok w ∧ finish s w = .ok x :=
  Except.bind_eq_ok

theorem read_eq (s : Sym ℚ) (table : List Row) (HI HF : Nat) :
    read s table HI HF =
      if (table.head?.bind (·[1]?)).isSome ∧ window table HI HF ≠ [] then
        extractAll (window table HI HF) >>= finishAll s
      else .error .index := by
  unfold read
  cases table with
  | nil => rfl
  | cons first rest =>
    dsimp only [List.head?_cons, Option.bind_some]
    split <;> rename_i h <;> simp [h]

theorem read_eq_ok {s : Sym ℚ} {table : List Row} {HI HF : Nat} {xs : List Rec} :
    read s table HI HF = .ok xs ↔
      (table.head?.bind (·[1]?)).isSome ∧ window table HI HF ≠ [] ∧
      List.Forall₂ (fun r x => rowRec s r = .ok x) (window table HI HF) xs := by
  rw [read_eq]
  split
  · rename_i hg
    simp only [Except.bind_eq_ok, extractAll, finishAll, mapE_eq_ok, rowRec_eq_ok, List.Forall₂.comp_iff, hg.1,
      hg.2, ne_eq, not_false_eq_true, true_and]
  · rename_i hg
    simp only [reduceCtorEq, false_iff]
    exact fun h => hg ⟨h.1, h.2.1⟩

/-! ### property theorems -/

/-- **Row-locality.** When `Weather(...)` returns, record `i` is `rowRec` of row `HI + i` of the table: one record
per row of the window, each a function of its own row. -/
theorem read_rowwise (s : Sym ℚ) (table : List Row) (HI HF : Nat) (xs : List Rec)
    (h : read s table HI HF = .ok xs) :
    List.Forall₂ (fun r x => rowRec s r = .ok x) (window table HI HF) xs :=
  (read_eq_ok.1 h).2.2

/-- the number of records is the number of table rows in `HI .. HF` -/
theorem read_length (s : Sym ℚ) (table : List Row) (HI HF : Nat) (xs : List Rec)
    (h : read s table HI HF = .ok xs) : xs.length = (window table HI HF).length :=
  (read_rowwise s table HI HF xs h).length_eq.symm

theorem extract_congr {r r' : Row} (h : ∀ j ∈ [6, 7, 8, 9, 12, 13, 14, 15, 20, 21], r[j]? = r'[j]?) :
    extract r = extract r' := by
  simp only [List.forall_mem_cons, List.not_mem_nil, false_imp_iff, implies_true, and_true] at h
  obtain ⟨h6, h7, h8, h9, h12, h13, h14, h15, h20, h21⟩ := h
  simp only [extract, cell, h6, h7, h8, h9, h12, h13, h14, h15, h20, h21]

/-- **Only ten cells matter.** Two rows that agree on cells 6, 7, 8, 9, 12, 13, 14, 15, 20, 21 give the same record
(or the same exception): every other column of the rural file is irrelevant to the forcing. -/
theorem rowRec_congr (s : Sym ℚ) (r r' : Row)
    (h : ∀ j ∈ [6, 7, 8, 9, 12, 13, 14, 15, 20, 21], r[j]? = r'[j]?) : rowRec s r = rowRec s r' := by
  rw [rowRec, rowRec, extract_congr h]

theorem rowRec_ok {s : Sym ℚ} {r : Row} {x : Rec} (h : rowRec s r = .ok x) :
    (∃ c, r[6]? = some c ∧ str2flCell c = .num (x.temp - 273.15)) ∧ (∃ c, r[7]? = some c ∧ str2flCell c = x.tdp) ∧
    (∃ c, r[8]? = some c ∧ str2flCell c = .num x.rhum) ∧ (∃ c, r[9]? = some c ∧ str2flCell c = .num x.pres) ∧
    (∃ c, r[12]? = some c ∧ str2flCell c = x.infra) ∧ (∃ c, r[13]? = some c ∧ str2flCell c = x.hor) ∧
    (∃ c, r[14]? = some c ∧ str2flCell c = x.dir) ∧ (∃ c, r[15]? = some c ∧ str2flCell c = x.dif) ∧
    (∃ c, r[20]? = some c ∧ str2flCell c = x.udir) ∧ (∃ c, r[21]? = some c ∧ str2flCell c = x.umod) ∧
    humFromRh s x.rhum (x.temp - 273.15) x.pres = .ok x.hum := by
  obtain ⟨w, he, hf⟩ := rowRec_eq_ok.1 h
  obtain ⟨t, rh, p, hum, ht, hr, hp, _, hh, rfl⟩ := finish_eq_ok.1 hf
  obtain ⟨h6, h7, h8, h9, h12, h13, h14, h15, h20, h21⟩ := extract_eq_ok.1 he
  rw [ht] at h6
  rw [hr] at h8
  rw [hp] at h9
  simp only [add_sub_cancel_right]
  exact ⟨cell_eq_ok.1 h6, cell_eq_ok.1 h7, cell_eq_ok.1 h8, cell_eq_ok.1 h9, cell_eq_ok.1 h12, cell_eq_ok.1 h13,
    cell_eq_ok.1 h14, cell_eq_ok.1 h15, cell_eq_ok.1 h20, cell_eq_ok.1 h21, hh⟩

/-- **Humidity of the forcing.** The humidity ratio of a record is `hum_from_rhum_temp` of the row's own relative
humidity, dry-bulb temperature and pressure - the values recorded beside it. -/
theorem rowRec_hum (s : Sym ℚ) (r : Row) (x : Rec) (h : rowRec s r = .ok x) :
    humFromRh s x.rhum (x.temp - 273.15) x.pres = .ok x.hum :=
  (rowRec_ok h).2.2.2.2.2.2.2.2.2.2

/-- the recorded values are the row's: temperature = cell 6 + 273.15, RH = cell 8, pressure = cell 9, wind = cell 21 -/
theorem rowRec_values (s : Sym ℚ) (r : Row) (x : Rec) (h : rowRec s r = .ok x) :
    (∃ c, r[6]? = some c ∧ str2flCell c = .num (x.temp - 273.15)) ∧
    (∃ c, r[8]? = some c ∧ str2flCell c = .num x.rhum) ∧
    (∃ c, r[9]? = some c ∧ str2flCell c = .num x.pres) ∧
    (∃ c, r[21]? = some c ∧ str2flCell c = x.umod) := by
  obtain ⟨c6, _, c8, c9, _, _, _, _, _, c21, _⟩ := rowRec_ok h
  exact ⟨c6, c8, c9, c21⟩

/-- **Window only.** Two tables with the same rows `HI .. HF` (and a first line with a second cell) give the same
station vectors: rows outside the window are irrelevant. -/
theorem read_window_only (s : Sym ℚ) (t t' : List Row) (HI HF : Nat) (f f' : Row) (c c' : Str)
    (h0 : t.head? = some f) (h0' : t'.head? = some f') (h1 : f[1]? = some c) (h1' : f'[1]? = some c')
    (hw : window t HI HF = window t' HI HF) : read s t HI HF = read s t' HI HF := by
  simp [read_eq, h0, h0', h1, h1', hw]

theorem read_congr (s : Sym ℚ) {t t' : List Row} {f f' : Row} {HI HF : Nat}
    (h0 : t.head? = some f) (h0' : t'.head? = some f') (h1 : 1 < f.length) (h1' : 1 < f'.length)
    (hw : (window t HI HF).map extract = (window t' HI HF).map extract) : read s t HI HF = read s t' HI HF := by
  have hlen := congrArg List.length hw
  simp only [List.length_map] at hlen
  have hnil : window t HI HF = [] ↔ window t' HI HF = [] := by
    rw [← List.length_eq_zero_iff, ← List.length_eq_zero_iff, hlen]
  simp only [read_eq, h0, h0', Option.bind_some, isSome_getElem?, h1, h1', ne_eq, hnil, extractAll]
  rw [mapE_eq_map extract, hw, ← mapE_eq_map]

/-- **Causality at the source.** If the window is extended (`HF ≤ HF'`) and both reads return, the records of the
shorter window are the first records of the longer one: a later rural row cannot change an earlier record. -/
theorem read_prefix (s : Sym ℚ) (table : List Row) (HI HF HF' : Nat) (xs ys : List Rec) (hle : HF ≤ HF')
    (h : read s table HI HF = .ok xs) (h' : read s table HI HF' = .ok ys) : xs = ys.take xs.length := by
  have a := read_rowwise s table HI HF xs h
  have b := List.forall₂_take (HF + 1 - HI) (read_rowwise s table HI HF' ys h')
  have hw : (window table HI HF').take (HF + 1 - HI) = window table HI HF := by
    rw [window, List.take_take, Nat.min_eq_left (by omega), window]
  rw [hw] at b
  -- `rowRec` is a function, so the records of the shorter window are determined
  rw [List.right_unique_forall₂' (fun _ _ _ e e' => Except.ok.inj (e.symm.trans e')) a b, List.length_take,
    List.take_eq_take_iff, Nat.min_assoc, Nat.min_self]

/-! ### non-vacuity: a two-row table read at the stub symbols -/

def demoTable : List Row :=
  [["LOCATION", "X"], ["1989", "1", "1", "1", "60", "f", "25.5", "20", "80", "100,900", "0", "0", "400", "0", "0", "0",
    "0", "0", "0", "0", "180", "2.5"],
   ["1989", "1", "1", "2", "60", "f", "-0.05", "", "103", "101325", "0", "0", "", "0", "0", "0", "0", "0", "0", "0",
    "x", "10.0", "extra"]].map (·.map String.toList)

example : (read stubQ demoTable 1 2).toOption.map (fun xs => xs.map (fun x => (x.temp, x.rhum, x.pres, x.umod))) =
    some [(25.5 + 273.15, 80, 100900, .num 2.5), (-0.05 + 273.15, 103, 101325, .num 10)] := by decide +kernel

example : (read stubQ demoTable 1 2).toOption.map (fun xs => xs.map (fun x => (x.tdp, x.infra, x.udir))) =
    some [(.num 20, .num 400, .num 180), (.text, .text, .text)] := by decide +kernel

example : read stubQ demoTable 1 1 = (read stubQ demoTable 1 2).map (·.take 1) := by decide +kernel

end Uwg.Weather
