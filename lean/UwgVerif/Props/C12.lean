/-
C12 — Sun position agrees with the weather file and with astronomy.

FULL STATEMENT OF THE PROPERTY (for the code):

    ∀ site (lat ∈ [−66, 66], east-positive lon ∈ [−180, 180], any zone tz hours east of UTC),
      every day of the year, every timestep of the day, every o o',
      solaranglesImpl realSym inobisStd month day secDay lat lon tz ca = .ok o →
      solaranglesSpec realSym month day secDay lat lon tz ca = .ok o' →
      o.zenith = o'.zenith                      -- the zenith used is the NOAA zenith

This statement is **FALSE of the code as it stands** (`solaranglesImpl` mirrors
`SolarCalcs.solarangles` exactly and is tied to it by the correspondence check): the code applies
NOAA's west-positive `time_offset = eqtime − 4·lon + 60·GMT` to the east-positive longitude and
hours-east-of-UTC zone of the EPW header, and its fractional year is `2π/365·(date − 1 + ut − ½)`
with a 0-based `date` and `ut` in hours.  `full_property_false_of_impl` below is a machine-checked
counterexample (cos zenith differs by more than 0.7 at an admissible site and time).  The repair
would break three pinned tests, so this is recorded as known finding
`C12-time-offset-and-fractional-year`, not fixed.

What IS proved:
  T1  `zenith_is_spherical_impl/_spec`  both models return the angle whose cosine is the spherical
      law of cosines expression (its argument is always in [−1,1]: `cosZenArg_mem`);
      `spec_is_noaa`: the full property holds of `solaranglesSpec` — trivially, BY DEFINITION of the
      specification (it is the NOAA algorithm); this says nothing about the code.
  T2  `ha_mirrored`, `ad_shifted`, `impl_is_spec_mirrored`: the exact form of the two deviations.
  T3  `impl_ne_spec_singapore`: at the shipped Singapore header the two hour angles differ by more
      than 21° (and less than 43°) at every instant of every day (the instance at that header of
      `ha_error_bound`, which bounds the difference at every site).
  T4  `offset_coincide_iff`, `ad_coincide_iff`, `ad_never_coincide`: when the deviations vanish.
  T5  `full_property_false_of_impl`: negation witness for the full statement.
The agreement of `cos(zenith)·DNI + DHI` with the file's global-horizontal column is a fact about
data files; it is measured by the harness and cannot be a theorem.
-/
import UwgVerif.Lemmas.Solar
import Mathlib.Analysis.Real.Pi.Bounds

namespace Uwg.C12
open Real

/-! ### T1 — the zenith is the spherical-triangle zenith -/

/-- The argument handed to `acos` is a genuine cosine: it lies in [−1, 1] for every latitude,
    declination and hour angle, so `math.acos` is never outside its domain in exact arithmetic. -/
theorem cosZenArg_mem (zlat decsol ha : ℝ) :
    -1 ≤ cosZenArg realSym zlat decsol ha ∧ cosZenArg realSym zlat decsol ha ≤ 1 := by
  -- twice the expression is `(1 + cos ha)·cos (φ − δ) − (1 − cos ha)·cos (φ + δ)`: two cosines
  -- with non-negative weights of sum 2
  have e : 2 * cosZenArg realSym zlat decsol ha
      = (1 + cos ha) * cos (zlat - decsol) - (1 - cos ha) * cos (zlat + decsol) := by
    rw [cos_sub, cos_add]
    show 2 * (sin zlat * sin decsol + cos zlat * cos decsol * cos ha) = _
    ring
  have hp : 0 ≤ 1 + cos ha := neg_le_iff_add_nonneg'.mp (neg_one_le_cos ha)
  have hm : 0 ≤ 1 - cos ha := sub_nonneg.mpr (cos_le_one ha)
  have h1 := mul_le_mul_of_nonneg_left (cos_le_one (zlat - decsol)) hp
  have h2 := mul_le_mul_of_nonneg_left (neg_one_le_cos (zlat - decsol)) hp
  have h3 := mul_le_mul_of_nonneg_left (cos_le_one (zlat + decsol)) hm
  have h4 := mul_le_mul_of_nonneg_left (neg_one_le_cos (zlat + decsol)) hm
  constructor <;> linarith

theorem cos_zenithOf (φ δ h : ℝ) : cos (zenithOf realSym φ δ h) = cosZenArg realSym φ δ h :=
  Real.cos_arccos (cosZenArg_mem φ δ h).1 (cosZenArg_mem φ δ h).2

/-- T1 (code). Whenever `solarangles` returns, `cos(zenith) = sin φ sin δ + cos φ cos δ cos ha`
    with φ the latitude in radians and δ, ha the declination and hour angle *it computed*
    (no side condition: the acos argument is always in range). -/
theorem zenith_is_spherical_impl {inobis : List Nat} {month day secDay : Int}
    {lat lon gmt ca : ℝ} {o : SolarOut ℝ}
    (h : solaranglesImpl realSym inobis month day secDay lat lon gmt ca = .ok o) :
    cos o.zenith = sin (lat * (π / 180)) * sin o.decsol
      + cos (lat * (π / 180)) * cos o.decsol * cos o.ha := by
  obtain ⟨-, ino, -, -, rfl⟩ := solaranglesImpl_eq_ok.mp h
  exact cos_zenithOf ..

/-- T1 (specification). Same for the NOAA model. -/
theorem zenith_is_spherical_spec {month day secDay : Int} {lat lon tz ca : ℝ} {o : SolarOut ℝ}
    (h : solaranglesSpec realSym month day secDay lat lon tz ca = .ok o) :
    cos o.zenith = sin (lat * (π / 180)) * sin o.decsol
      + cos (lat * (π / 180)) * cos o.decsol * cos o.ha := by
  obtain ⟨-, -, rfl⟩ := solaranglesSpec_eq_ok.mp h
  exact cos_zenithOf ..

/-- The full property, proved of the SPECIFICATION only — and only by unfolding its definition:
    `solaranglesSpec` returns the zenith of the NOAA general solar position algorithm for the
    east-positive longitude and hours-east zone (fractional year from the 1-based day of year and
    `(hour − 12)/24`, `time_offset = eqtime + 4·lon − 60·tz`, `ha = tst/4 − 180°`).
    This is NOT a statement about uwg's code; see `full_property_false_of_impl`. -/
theorem spec_is_noaa {month day secDay : Int} {lat lon tz ca : ℝ} {o : SolarOut ℝ}
    (h : solaranglesSpec realSym month day secDay lat lon tz ca = .ok o) :
    o.ad = 2 * π / 365 * ((doySpec month day : ℝ) - 1 + ((secDay : ℝ) / 3600 - 12) / 24) ∧
    o.eqtime = eqtimeOf realSym o.ad ∧ o.decsol = decsolOf realSym o.ad ∧
    o.ha = (((secDay : ℝ) / 60 + (o.eqtime + 4 * lon - 60 * tz)) / 4 - 180) * π / 180 ∧
    cos o.zenith = sin (lat * (π / 180)) * sin o.decsol
      + cos (lat * (π / 180)) * cos o.decsol * cos o.ha := by
  have hz := zenith_is_spherical_spec h
  obtain ⟨-, -, rfl⟩ := solaranglesSpec_eq_ok.mp h
  exact ⟨rfl, rfl, rfl, rfl, hz⟩

/-! ### T2 — the exact form of the two deviations -/

section generic
variable {K : Type} [Field K] [LinearOrder K] [IsStrictOrderedRing K]

/-- T2a. With the equation of time held fixed, the code's hour angle for (lon, gmt) is the NOAA
    hour angle for (−lon, −gmt): the code treats east longitudes and zones as west ones. -/
theorem ha_mirrored (S : Sym K) (secDay : Int) (eqtime lon gmt : K) :
    haImplOf S secDay (timeOffsetImpl eqtime lon gmt)
      = haSpecOf S secDay (timeOffsetSpec eqtime (-lon) (-gmt)) := by
  rw [haImplOf_timeOffsetImpl, haSpecOf_timeOffsetSpec]
  ring

/-- T2b. The code's fractional year (0-based `date = doy − 1`, `ut` in hours used as days) is the
    NOAA fractional year plus `2π/365 · (23·ut/24 − 1)`: up to a day early at midnight, up to
    22 days late at the end of the day. -/
theorem ad_shifted (S : Sym K) (doy : Int) (ut : K) :
    adImpl S (doy - 1) ut = adSpec S doy ut + 2 * S.pi / 365 * (23 * ut / 24 - 1) := by
  unfold adImpl adSpec
  push_cast
  ring

omit [LinearOrder K] [IsStrictOrderedRing K] in
/-- `ut` as coded is the number of seconds reduced modulo one day, in hours; for a clock value
    `0 ≤ secDay < 86400` it is `secDay/3600` (the `24 + … % 24` dance changes nothing). -/
theorem utImpl_eq (secDay : Int) :
    (utImpl secDay : K) = ((secDay % 86400 : Int) : K) / 3600 ∧
    (0 ≤ secDay → secDay < 86400 → (utImpl secDay : K) = (secDay : K) / 3600) := by
  have hmod : (86400 + secDay % 86400) % 86400 = secDay % 86400 := by omega
  unfold utImpl
  rw [hmod]
  exact ⟨rfl, fun h0 h1 => by rw [Int.emod_eq_of_lt h0 h1]⟩

/-- T2 at the level of the two routines: same valid date, same clock value, same header. -/
theorem impl_is_spec_mirrored (S : Sym K) {month day secDay : Int} {lat lon gmt ca : K}
    {oI oS : SolarOut K} (h0 : 0 ≤ secDay) (h1 : secDay < 86400)
    (hI : solaranglesImpl S inobisStd month day secDay lat lon gmt ca = .ok oI)
    (hS : solaranglesSpec S month day secDay lat lon gmt ca = .ok oS) :
    oI.ut = oS.ut ∧
    oI.ad = oS.ad + 2 * S.pi / 365 * (23 * oS.ut / 24 - 1) ∧
    oI.ha - oS.ha = ((oI.eqtime - oS.eqtime) / 4 - 2 * lon + 30 * gmt) * S.pi / 180 := by
  obtain ⟨⟨hm1, hm12⟩, -, rfl⟩ := solaranglesSpec_eq_ok.mp hS
  obtain ⟨-, ino, hino, -, rfl⟩ := solaranglesImpl_eq_ok.mp hI
  have hut : (utImpl secDay : K) = (secDay : K) / 3600 := (utImpl_eq secDay).2 h0 h1
  refine ⟨hut, ?_, ?_⟩
  · show adImpl S (day + (ino : Int) - 1) (utImpl secDay)
        = adSpec S (doySpec month day) ((secDay : K) / 3600) + _
    rw [date_eq_doy_sub_one hm1 hm12 hino, hut, ad_shifted]
    rfl
  · rw [ha_sub]
    ring

/-! ### T4 — when do the deviations vanish -/

/-- T4a. The two time offsets agree iff the site sits exactly on its zone meridian. -/
theorem offset_coincide_iff (eqtime lon gmt : K) :
    timeOffsetImpl eqtime lon gmt = timeOffsetSpec eqtime lon gmt ↔ lon = 15 * gmt := by
  unfold timeOffsetImpl timeOffsetSpec
  constructor <;> intro h <;> linarith

/-- T4b. The two fractional years agree iff `ut = 24/23` hours (01:02:36.52…). -/
theorem ad_coincide_iff (S : Sym K) (hpi : S.pi ≠ 0) (doy : Int) (ut : K) :
    adImpl S (doy - 1) ut = adSpec S doy ut ↔ ut = 24 / 23 := by
  have h3 : 2 * S.pi / 365 ≠ 0 := div_ne_zero (mul_ne_zero two_ne_zero hpi) (by norm_num)
  -- the shift `2π/365·(23·ut/24 − 1)` vanishes iff `23·ut = 24`
  rw [ad_shifted, add_eq_left, mul_eq_zero, or_iff_right h3, sub_eq_zero,
    div_eq_one_iff_eq (by norm_num), eq_div_iff (by norm_num), mul_comm]

end generic

/-- T4c. No integer clock value makes the fractional years agree (86400/23 is not an integer):
    for every valid date and every whole second of the day the code's fractional year differs
    from NOAA's. -/
theorem ad_never_coincide (doy secDay : Int) (h0 : 0 ≤ secDay) (h1 : secDay < 86400) :
    adImpl realSym (doy - 1) (utImpl secDay) ≠ adSpec realSym doy ((secDay : ℝ) / 3600) := by
  rw [(utImpl_eq (K := ℝ) secDay).2 h0 h1]
  intro h
  have := (ad_coincide_iff realSym Real.pi_ne_zero doy ((secDay : ℝ) / 3600)).mp h
  have h2 : ((23 * secDay : Int) : ℝ) = ((86400 : Int) : ℝ) := by
    push_cast; linarith
  have h3 : 23 * secDay = 86400 := by exact_mod_cast h2
  omega

/-- T4a and T4b together, over ℝ. -/
theorem coincide_iff (eqtime lon gmt : ℝ) (doy : Int) (ut : ℝ) :
    (timeOffsetImpl eqtime lon gmt = timeOffsetSpec eqtime lon gmt ↔ lon = 15 * gmt) ∧
    (adImpl realSym (doy - 1) ut = adSpec realSym doy ut ↔ ut = 24 / 23) :=
  ⟨offset_coincide_iff eqtime lon gmt, ad_coincide_iff realSym Real.pi_ne_zero doy ut⟩

/-- T1 (both models at once). -/
theorem zenith_is_spherical {inobis : List Nat} {month day secDay : Int} {lat lon gmt ca : ℝ} :
    (∀ o, solaranglesImpl realSym inobis month day secDay lat lon gmt ca = .ok o →
      cos o.zenith = sin (lat * (π / 180)) * sin o.decsol
        + cos (lat * (π / 180)) * cos o.decsol * cos o.ha) ∧
    (∀ o, solaranglesSpec realSym month day secDay lat lon gmt ca = .ok o →
      cos o.zenith = sin (lat * (π / 180)) * sin o.decsol
        + cos (lat * (π / 180)) * cos o.decsol * cos o.ha) :=
  ⟨fun _ h => zenith_is_spherical_impl h, fun _ h => zenith_is_spherical_spec h⟩

/-! ### T3 — Singapore: the deviation never vanishes -/

/-- `|eqtime| ≤ 20.51 min` for any value of the fractional year (only `|cos|, |sin| ≤ 1` used). -/
theorem eqtime_bound (x : ℝ) : |eqtimeOf realSym x| ≤ 2051 / 100 := by
  -- 229.18·(0.000075 + 0.001868 + 0.032077 + 0.01461 + 0.040849) = 20.5068…
  simp only [eqtimeOf, realSym]
  obtain ⟨c1, c1'⟩ := Real.cos_mem_Icc x
  obtain ⟨s1, s1'⟩ := Real.sin_mem_Icc x
  obtain ⟨c2, c2'⟩ := Real.cos_mem_Icc (2 * x)
  obtain ⟨s2, s2'⟩ := Real.sin_mem_Icc (2 * x)
  rw [abs_le]
  constructor <;> linarith

/-- `|declination| ≤ 0.488929 rad` (28.02°) for any value of the fractional year. -/
theorem decsol_bound (x : ℝ) : |decsolOf realSym x| ≤ 488929 / 1000000 := by
  simp only [decsolOf, realSym]
  obtain ⟨c1, c1'⟩ := Real.cos_mem_Icc x
  obtain ⟨s1, s1'⟩ := Real.sin_mem_Icc x
  obtain ⟨c2, c2'⟩ := Real.cos_mem_Icc (2 * x)
  obtain ⟨s2, s2'⟩ := Real.sin_mem_Icc (2 * x)
  obtain ⟨c3, c3'⟩ := Real.cos_mem_Icc (3 * x)
  obtain ⟨s3, s3'⟩ := Real.sin_mem_Icc (3 * x)
  rw [abs_le]
  constructor <;> linarith

/-- At every site, whenever both routines return, the code's hour angle exceeds the NOAA hour angle
    by `30·gmt − 2·lon` degrees, up to the two equations of time (`± 2·20.51/4 = ± 10.255°`). -/
theorem ha_error_bound {inobis : List Nat} {month day secDay : Int} {lat lon gmt ca : ℝ}
    {oI oS : SolarOut ℝ}
    (hI : solaranglesImpl realSym inobis month day secDay lat lon gmt ca = .ok oI)
    (hS : solaranglesSpec realSym month day secDay lat lon gmt ca = .ok oS) :
    |oI.ha - oS.ha - (30 * gmt - 2 * lon) * π / 180| ≤ 2051 / 200 * π / 180 := by
  obtain ⟨-, -, rfl⟩ := solaranglesSpec_eq_ok.mp hS
  obtain ⟨-, ino, -, -, rfl⟩ := solaranglesImpl_eq_ok.mp hI
  have bI : |(implOut realSym ino day secDay lat lon gmt ca).eqtime| ≤ _ := eqtime_bound _
  have bS : |(specOut realSym month day secDay lat lon gmt ca).eqtime| ≤ _ := eqtime_bound _
  rw [ha_sub, realSym_pi, add_sub_cancel_left]
  refine abs_deg_le ?_
  rw [abs_le] at bI bS ⊢
  constructor <;> linarith

/-- T3. At the shipped Singapore header (lat 1.37, lon 103.98 E, zone +8) the hour angle the code
    computes exceeds the NOAA hour angle by more than 21° (= 21π/180 > 0.366 rad) and by less than
    43°, for EVERY month table entry, day and clock value for which both return — the sun is placed
    between 1 h 24 min and 2 h 52 min further along its daily path than it is.
    (The longitude/zone part is (−8·103.98 + 120·8)/4 = 32.04°; the two equations of time, evaluated
    at different fractional years, can move this by at most 2·20.51/4 = 10.255°.)
    This is a statement about hour angles; zenith angles can still coincide momentarily when the
    two hour angles are mirror images about solar noon. -/
theorem impl_ne_spec_singapore {inobis : List Nat} {month day secDay : Int} {ca : ℝ}
    {oI oS : SolarOut ℝ}
    (hI : solaranglesImpl realSym inobis month day secDay (137 / 100) (10398 / 100) 8 ca = .ok oI)
    (hS : solaranglesSpec realSym month day secDay (137 / 100) (10398 / 100) 8 ca = .ok oS) :
    21 * π / 180 < oI.ha - oS.ha ∧ oI.ha - oS.ha < 43 * π / 180 ∧ 366 / 1000 < oI.ha - oS.ha := by
  obtain ⟨lo, hi⟩ := abs_le.mp (ha_error_bound hI hS)
  have hpi := Real.pi_gt_d4
  refine ⟨?_, ?_, ?_⟩ <;> linarith

/-! ### Zero-division guard -/

/-- `tanzenOf` at the real symbols as the elaborator writes it at ℝ. A `rfl`, but unfolding the
    generic definition leaves instance paths through `Field`/`LinearOrder`, which `rw` and
    `split_ifs` do not match against conditions stated at ℝ. -/
theorem tanzenOf_real (z : ℝ) : tanzenOf realSym z =
    if |1 / 2 * π - z| < 1 / 1000000 then
      if 1 / 2 * π - z > 0 then tan (1 / 2 * π - 1 / 1000000) else tan (1 / 2 * π + 1 / 1000000)
    else if |z| < 1 / 1000000 then 1 / 1000000 else tan z := rfl

/-- In exact real arithmetic `1./tanzen` can only divide by zero when the zenith is exactly π
    (sun at the nadir, acos argument −1): for a zenith in [0, π) the clamped tangent is non-zero. -/
theorem tanzen_ne_zero {z : ℝ} (h0 : 0 ≤ z) (hpi : z < π) : tanzenOf realSym z ≠ 0 := by
  have hpi3 := Real.pi_gt_three
  rw [tanzenOf_real]
  split_ifs with h1 h2 h3
  · exact (Real.tan_pos_of_pos_of_lt_pi_div_two (by linarith) (by linarith)).ne'
  · exact tan_ne_zero_of_ne_pi_div_two (by positivity) (by linarith only [hpi3])
      fun h => by linarith only [h]
  · norm_num
  · -- away from both clamps `0 < z < π` and `z ≠ π/2`
    have hz : 0 < z := lt_of_le_of_ne h0 fun h => h3 (by rw [← h]; norm_num)
    refine tan_ne_zero_of_ne_pi_div_two hz hpi fun hh => h1 ?_
    rw [hh, show (1 / 2 * π - π / 2 : ℝ) = 0 by ring]
    norm_num

theorem tanzenOf_zenithOf_ne_zero {φ δ h : ℝ} (hx : -1 < cosZenArg realSym φ δ h) :
    tanzenOf realSym (zenithOf realSym φ δ h) ≠ 0 :=
  tanzen_ne_zero (Real.arccos_nonneg _) (Real.arccos_lt_pi.mpr hx)

theorem solaranglesImpl_returns {month day secDay : Int} {lat lon gmt ca : ℝ} {ino : Nat}
    (hino : pyIndex inobisStd (month - 1) = some ino) (hca : ca ≠ 0)
    (hx : -1 < cosZenArg realSym (lat * (π / 180))
      (implOut realSym ino day secDay lat lon gmt ca).decsol
      (implOut realSym ino day secDay lat lon gmt ca).ha) :
    solaranglesImpl realSym inobisStd month day secDay lat lon gmt ca
      = .ok (implOut realSym ino day secDay lat lon gmt ca) :=
  solaranglesImpl_eq_ok.mpr ⟨by decide, ino, hino, ⟨tanzenOf_zenithOf_ne_zero hx, hca⟩, rfl⟩

theorem solaranglesSpec_returns {month day secDay : Int} {lat lon tz ca : ℝ}
    (h1 : 1 ≤ month) (h12 : month ≤ 12) (hca : ca ≠ 0)
    (hx : -1 < cosZenArg realSym (lat * (π / 180))
      (specOut realSym month day secDay lat lon tz ca).decsol
      (specOut realSym month day secDay lat lon tz ca).ha) :
    solaranglesSpec realSym month day secDay lat lon tz ca
      = .ok (specOut realSym month day secDay lat lon tz ca) :=
  solaranglesSpec_eq_ok.mpr ⟨⟨h1, h12⟩, ⟨tanzenOf_zenithOf_ne_zero hx, hca⟩, rfl⟩

/-! ### T5 — the full property is false of the code -/

/-- Equation of time of the NOAA model on 1 January at 15:00 (independent of the longitude). -/
noncomputable def eS0 : ℝ := (specOut realSym 1 1 54000 0 0 8 1).eqtime

/-- Witness longitude: about 75° E (between 69.8° and 80.2°), on zone +8 — the situation of western
    China; chosen so that the NOAA hour angle at 15:00 zone time is exactly 0 (solar noon). -/
noncomputable def lon0 : ℝ := 75 - eS0 / 4

theorem lon0_mem : 69 < lon0 ∧ lon0 < 81 := by
  have b : |eS0| ≤ 2051 / 100 := eqtime_bound _
  rw [abs_le] at b
  unfold lon0
  constructor <;> linarith

/-- T5. NEGATION WITNESS for the full property. There is an admissible site and instant — on the
    equator at `lon0` ≈ 75° E using zone +8, 1 January, 15:00:00 zone time, with the standard month
    table — at which both routines return and
    `cos(zenith_NOAA) − cos(zenith_code) > 0.7`: NOAA has the sun within 28.1° of the zenith
    (it is solar noon there), the code has it within 10.3° of the horizon. In particular the two
    zenith angles differ, so "zenith = NOAA zenith for all sites, days and timesteps" is false of
    `solarangles` as coded. -/
theorem full_property_false_of_impl :
    ∃ (month day secDay : Int) (lat lon gmt ca : ℝ) (oI oS : SolarOut ℝ),
      1 ≤ month ∧ month ≤ 12 ∧ 1 ≤ day ∧ day ≤ 31 ∧ 0 ≤ secDay ∧ secDay < 86400 ∧
      -66 ≤ lat ∧ lat ≤ 66 ∧ -180 ≤ lon ∧ lon ≤ 180 ∧ 0 < ca ∧
      solaranglesImpl realSym inobisStd month day secDay lat lon gmt ca = .ok oI ∧
      solaranglesSpec realSym month day secDay lat lon gmt ca = .ok oS ∧
      cos oS.zenith - cos oI.zenith > 7 / 10 ∧ oI.zenith ≠ oS.zenith := by
  obtain ⟨hl1, hl2⟩ := lon0_mem
  set oI := implOut realSym 0 1 54000 0 lon0 8 1 with hoI
  set oS := specOut realSym 1 1 54000 0 lon0 8 1 with hoS
  -- the NOAA equation of time does not depend on the longitude
  have heS : oS.eqtime = eS0 := rfl
  -- deviation of the code's hour angle from π/2, in radians
  obtain ⟨x, hx⟩ : ∃ x, x = (oI.eqtime + eS0) / 4 * π / 180 := ⟨_, rfl⟩
  -- NOAA: solar noon; the code: hour angle π/2 + x
  have hhaS : oS.ha = 0 := by
    rw [hoS, specOut_ha, ← hoS, heS, lon0, realSym_pi]
    push_cast
    ring
  have hhaI : oI.ha = x + π / 2 := by
    rw [hoI, implOut_ha, ← hoI, hx, lon0, realSym_pi]
    push_cast
    ring
  have hcS : cosZenArg realSym ((0 : ℝ) * (π / 180)) oS.decsol oS.ha = cos oS.decsol := by
    rw [cosZenArg_equator, hhaS, Real.cos_zero, mul_one]
  have hcI : cosZenArg realSym ((0 : ℝ) * (π / 180)) oI.decsol oI.ha
      = -(cos oI.decsol * sin x) := by
    rw [cosZenArg_equator, hhaI, Real.cos_add_pi_div_two, mul_neg]
  -- `|x| ≤ 10.255° < 0.179`
  have hx' : |x| ≤ 179 / 1000 := by
    have bI : |oI.eqtime| ≤ 2051 / 100 := eqtime_bound _
    have bS : |eS0| ≤ 2051 / 100 := eqtime_bound _
    have hd : |(oI.eqtime + eS0) / 4| ≤ 2051 / 200 := by
      rw [abs_le] at bI bS ⊢
      constructor <;> linarith
    rw [hx]
    exact (abs_deg_le hd).trans (by linarith only [Real.pi_lt_d4])
  obtain ⟨gS, gI, hgap⟩ :=
    cos_gap (δS := oS.decsol) (decsol_bound _) (Real.abs_cos_le_one oI.decsol) hx'
  rw [← hcS] at gS hgap
  rw [← hcI] at gI hgap
  have hz : cos oS.zenith - cos oI.zenith > 7 / 10 := by
    rw [← cos_zenithOf, ← cos_zenithOf] at hgap
    exact hgap
  refine ⟨1, 1, 54000, 0, lon0, 8, 1, oI, oS, by norm_num, by norm_num, by norm_num, by norm_num,
    by norm_num, by norm_num, by norm_num, by norm_num, by linarith only [hl1], by linarith only [hl2],
    by norm_num,
    solaranglesImpl_returns rfl one_ne_zero gI,
    solaranglesSpec_returns (by norm_num) (by norm_num) one_ne_zero gS, hz, fun h => ?_⟩
  rw [h, sub_self] at hz
  exact absurd hz (by norm_num)

/-! ### Non-vacuity -/

/-- If latitude and hour angle have non-negative cosine (sun on the day side) and the declination
    is within the series' bound, the acos argument is > −1, hence the zenith is < π and the call
    cannot divide by zero. -/
private theorem cosZenArg_gt {φ δ ha : ℝ} (hφ : 0 ≤ cos φ) (hδ : |δ| ≤ 488929 / 1000000)
    (hh : 0 ≤ cos ha) : -1 < cosZenArg realSym φ δ ha := by
  show -1 < sin φ * sin δ + cos φ * cos δ * cos ha
  have hcδ : 0 ≤ cos δ := by
    have := one_sub_sq_div_two_le_cos_of_abs_le hδ
    norm_num at this
    linarith
  have h1 := abs_le.mp ((abs_mul_sin_le (Real.abs_sin_le_one φ) δ).trans hδ)
  have h2 : 0 ≤ cos φ * cos δ * cos ha := mul_nonneg (mul_nonneg hφ hcδ) hh
  linarith

/-- Non-vacuity of T1–T3 over ℝ: at the shipped Singapore header, 21 March 09:00:00, both routines
    return a result (their hour angles are −29°±5.2° and −61°±5.2°, on the day side). -/
example : ∃ oI oS : SolarOut ℝ,
    solaranglesImpl realSym inobisStd 3 21 32400 (137 / 100) (10398 / 100) 8 (3 / 2) = .ok oI ∧
    solaranglesSpec realSym 3 21 32400 (137 / 100) (10398 / 100) 8 (3 / 2) = .ok oS := by
  have hφ : 0 ≤ cos ((137 / 100 : ℝ) * (π / 180)) := by
    rw [← mul_div_assoc]
    exact cos_deg_nonneg (by norm_num [abs_le])
  refine ⟨_, _,
    solaranglesImpl_returns (ino := 59) rfl (by norm_num)
      (cosZenArg_gt hφ (decsol_bound _) ?_),
    solaranglesSpec_returns (by norm_num) (by norm_num) (by norm_num)
      (cosZenArg_gt hφ (decsol_bound _) ?_)⟩
  -- the hour angles are (eqtime/4 − 28.98)° and (eqtime/4 − 61.02)°, |eqtime| ≤ 20.51
  · have b : |(implOut realSym 59 21 32400 (137 / 100) (10398 / 100) 8 (3 / 2)).eqtime| ≤ _ :=
      eqtime_bound _
    rw [implOut_ha]
    refine cos_deg_nonneg ?_
    rw [abs_le] at b ⊢
    push_cast
    constructor <;> linarith
  · have b : |(specOut realSym 3 21 32400 (137 / 100) (10398 / 100) 8 (3 / 2)).eqtime| ≤ _ :=
      eqtime_bound _
    rw [specOut_ha]
    refine cos_deg_nonneg ?_
    rw [abs_le] at b ⊢
    push_cast
    constructor <;> linarith

/-- Non-vacuity of `impl_is_spec_mirrored` / `impl_ne_spec_singapore`, executed in the model at ℚ
    with the stub symbols: both routines return at the Singapore header, 21 March 09:00. -/
example : (solaranglesImpl stubQ inobisStd 3 21 32400 (137 / 100) (10398 / 100) 8 (3 / 2)).isOk = true ∧
    (solaranglesSpec stubQ 3 21 32400 (137 / 100) (10398 / 100) 8 (3 / 2)).isOk = true := by
  decide +kernel

end Uwg.C12
