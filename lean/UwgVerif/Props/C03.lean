/-
C03 — Urban weather at hour h depends only on rural data up to hour h.

Stated on `Sim.simulate` / `Sim.simulateFile` (Model/Sim.lean): the real control loop (closed form
proved in Props/C02.lean) with an arbitrary physics step. All theorems hold for every `Phys`, i.e.
whatever the physics computes from (its state, the current forcing row, the clock view, the deep
temperatures). Records are compared whether the runs return or raise (`recordsOf`).
-/
import UwgVerif.Lemmas.Sim
import UwgVerif.Props.C02

namespace Uwg.C03
open Uwg.Sim Uwg.C02
variable {S R D Rec E : Type}

/-- Key arithmetic fact (from C02): every step up to and including the one that stores record `h`
    reads a forcing row `≤ h`. -/
theorem rowIdx_le_of_before_record (dt it h : Nat) (hdt : dt ∣ 3600) (hpos : 0 < dt) (hit : 1 ≤ it)
    (hle : it ≤ 3600 * (h + 1) / dt) : rowIdx dt it ≤ h := by
  rw [rowIdx_eq hpos hit]
  have : it * dt ≤ 3600 * (h + 1) := recSpec_it_mul hdt h ▸ Nat.mul_le_mul_right dt hle
  have h1 : 1 ≤ it * dt := Nat.mul_pos hit hpos
  omega

private theorem runSteps_prefix_records {P : Phys S R D Rec E} {deep deep' : StepTrace → D} {rows rows' : List R}
    {pre suf suf' : List StepTrace} {s0 : S} {n : Nat} (hn : (records pre).length = n)
    (hagree : ∀ t ∈ pre, rows[t.row]? = rows'[t.row]? ∧ deep t = deep' t) :
    (recordsOf (runSteps P deep rows (pre ++ suf) s0 [])).take n =
    (recordsOf (runSteps P deep' rows' (pre ++ suf') s0 [])).take n := by
  rw [runSteps_append, runSteps_append, runSteps_congr P deep deep' rows rows' pre hagree]
  cases hX : runSteps P deep' rows' pre s0 [] with
  | error x => rfl
  | ok p =>
    obtain ⟨s1, a1⟩ := p
    have hlen := runSteps_ok_length hX
    rw [List.length_nil, Nat.zero_add, hn] at hlen
    obtain ⟨x, hx⟩ := runSteps_extends P deep rows suf s1 a1
    obtain ⟨x', hx'⟩ := runSteps_extends P deep' rows' suf' s1 a1
    simp only []
    rw [hx, hx', ← hlen, List.take_left', List.take_left'] <;> rfl

private theorem prefix_length_row_le {dt : Nat} (hdt : dt ∣ 3600) (hpos : 0 < dt) (cs : Nat → Clock) (h : Nat) :
    (records ((List.range' 1 (3600 * (h + 1) / dt)).map (stepSpec dt cs))).length = h + 1 ∧
    ∀ t ∈ (List.range' 1 (3600 * (h + 1) / dt)).map (stepSpec dt cs), t.row ≤ h := by
  constructor
  · rw [records_spec hdt hpos, recSpec_it_mul hdt h]
    simp
  · intro t ht
    obtain ⟨it, hit, rfl⟩ := List.mem_map.1 ht
    rw [List.mem_range'_1] at hit
    have := rowIdx_le_of_before_record dt it h hdt hpos hit.1 (by omega)
    rwa [rowIdx_eq hpos hit.1] at this

private theorem trace_split {dt M Dy days nrows h : Nat} (hv : Valid ⟨dt, M, Dy, days, nrows⟩)
    (hh : h < 24 * days) :
    ∃ suf, driver ⟨dt, M, Dy, days, nrows⟩ =
      .ok ((List.range' 1 (3600 * (h + 1) / dt)).map (stepSpec dt (clockAt dt M Dy)) ++ suf) := by
  have hJK : 3600 * (h + 1) / dt ≤ nt dt days - 1 := by
    unfold nt
    rw [Nat.add_sub_cancel]
    exact Nat.div_le_div_right (by omega)
  obtain ⟨m, hm⟩ := Nat.exists_eq_add_of_le hJK
  refine ⟨(List.range' (1 + 3600 * (h + 1) / dt) m).map (stepSpec dt (clockAt dt M Dy)), ?_⟩
  rw [← List.map_append, List.range'_append_1, ← hm]
  exact driver_trace ⟨dt, M, Dy, days, nrows⟩ hv

/-- Common core of T1, T2 and T5. -/
theorem prefix_records (P : Phys S R D Rec E) {soil soil' : Soil D} {dt M Dy days days' : Nat}
    {rows rows' : List R} (s0 : S) {h : Nat}
    (hv : Valid ⟨dt, M, Dy, days, rows.length⟩) (hv' : Valid ⟨dt, M, Dy, days', rows'.length⟩)
    (hh : h < 24 * days) (hh' : h < 24 * days')
    (hrows : rows.take (h + 1) = rows'.take (h + 1))
    (hsoil : ∀ t, deepAt soil t = deepAt soil' t) :
    (recordsOf (simulate P soil dt M Dy days rows s0)).take (h + 1) =
    (recordsOf (simulate P soil' dt M Dy days' rows' s0)).take (h + 1) := by
  obtain ⟨suf, htr⟩ := trace_split hv hh
  obtain ⟨suf', htr'⟩ := trace_split hv' hh'
  obtain ⟨hlen, hrow⟩ := prefix_length_row_le (dt := dt) hv.dvd hv.pos (clockAt dt M Dy) h
  rw [simulate_of_driver_ok htr, simulate_of_driver_ok htr']
  exact runSteps_prefix_records hlen fun t ht =>
    ⟨getElem?_of_take_eq hrows (Nat.lt_succ_of_le (hrow t ht)), hsoil t⟩

/-- T1 `causal`. With at least three ground-temperature depths (deep temperature = monthly table
    of the header), the records for hours `0 … h` are the same for any two rural windows that agree
    on rows `0 … h` — whatever the later rows contain. -/
theorem causal (P : Phys S R D Rec E) (table : Nat → D) (dt M Dy days : Nat)
    (rows rows' : List R) (s0 : S) (h : Nat)
    (hv : Valid ⟨dt, M, Dy, days, rows.length⟩) (hv' : Valid ⟨dt, M, Dy, days, rows'.length⟩)
    (hh : h < 24 * days) (hrows : rows.take (h + 1) = rows'.take (h + 1)) :
    (recordsOf (simulate P (.monthly table) dt M Dy days rows s0)).take (h + 1) =
    (recordsOf (simulate P (.monthly table) dt M Dy days rows' s0)).take (h + 1) :=
  prefix_records P s0 hv hv' hh hh hrows (fun _ => rfl)

/-- T2 `extend_days`. Simulating more days from the same start leaves the records of the shorter
    run unchanged: they are the first `24·d₁` records of the longer run. -/
theorem extend_days (P : Phys S R D Rec E) (table : Nat → D) (dt M Dy d₁ d₂ : Nat)
    (rows : List R) (s0 : S) (hd : d₁ ≤ d₂) (hpos : 0 < d₁)
    (hv₁ : Valid ⟨dt, M, Dy, d₁, (rows.take (24 * d₁)).length⟩)
    (hv₂ : Valid ⟨dt, M, Dy, d₂, rows.length⟩) :
    (recordsOf (simulate P (.monthly table) dt M Dy d₁ (rows.take (24 * d₁)) s0)).take (24 * d₁) =
    (recordsOf (simulate P (.monthly table) dt M Dy d₂ rows s0)).take (24 * d₁) := by
  have h := prefix_records P (soil := .monthly table) (soil' := .monthly table) s0 (h := 24 * d₁ - 1) hv₁ hv₂
    (by omega) (by omega) (by rw [List.take_take]; congr 1; omega) (fun _ => rfl)
  have e : 24 * d₁ - 1 + 1 = 24 * d₁ := by omega
  rw [e] at h
  exact h

/-- T3 `outside_window_irrelevant`. Only the rows of the simulated window are read: two rural
    files that agree on data rows `24·j₀ … 24·j₀ + 24·days − 1` give the same run. -/
theorem outside_window_irrelevant {α : Type} (P : Phys S R D Rec E) (b : Bool) (table : Nat → D)
    (mean : List R → D) (proj : α → R) (dt M Dy days : Nat) (file file' : List α)
    (init : Option R → S)
    (hwin : ∀ i, 24 * (Clock.init M Dy).julian ≤ i → i < 24 * (Clock.init M Dy).julian + 24 * days →
      file[i]? = file'[i]?) :
    simulateFile P b table mean proj dt M Dy days file init =
    simulateFile P b table mean proj dt M Dy days file' init := by
  have : window M Dy days file = window M Dy days file' :=
    take_drop_congr fun n hn => hwin _ (by omega) (by omega)
  unfold simulateFile
  rw [this]

/-- T4 `unmodelled_columns_irrelevant`. Rural files whose window rows have the same modelled
    columns (the projection `proj`) give the same run, whatever the other columns contain. -/
theorem unmodelled_columns_irrelevant {α : Type} (P : Phys S R D Rec E) (b : Bool) (table : Nat → D)
    (mean : List R → D) (proj : α → R) (dt M Dy days : Nat) (file file' : List α)
    (init : Option R → S)
    (hcols : (window M Dy days file).map proj = (window M Dy days file').map proj) :
    simulateFile P b table mean proj dt M Dy days file init =
    simulateFile P b table mean proj dt M Dy days file' init := by
  unfold simulateFile
  rw [hcols]

/-- T5 `nsoil_lt3_only_via_mean`. With fewer than three ground depths the deep temperature is the
    whole-window mean; that mean is the *only* way later rows can influence earlier hours: windows
    agreeing on rows `0 … h` and having the same mean give the same records for hours `0 … h`. -/
theorem nsoil_lt3_only_via_mean (P : Phys S R D Rec E) (m m' : D) (dt M Dy days : Nat)
    (rows rows' : List R) (s0 : S) (h : Nat)
    (hv : Valid ⟨dt, M, Dy, days, rows.length⟩) (hv' : Valid ⟨dt, M, Dy, days, rows'.length⟩)
    (hh : h < 24 * days) (hrows : rows.take (h + 1) = rows'.take (h + 1)) (hm : m = m') :
    (recordsOf (simulate P (.windowMean m) dt M Dy days rows s0)).take (h + 1) =
    (recordsOf (simulate P (.windowMean m') dt M Dy days rows' s0)).take (h + 1) :=
  prefix_records P s0 hv hv' hh hh hrows (fun _ => by simp [deepAt, hm])

/-- Non-vacuity: a one-day run at dt = 300 s from 1 January with 24 rows is `Valid`. -/
example : Valid ⟨300, 1, 1, 1, 24⟩ :=
  { date := by decide, dvd := ⟨12, by decide⟩, pos := by decide, inYear := by decide, rows := by decide }

end Uwg.C03
