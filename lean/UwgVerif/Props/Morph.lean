/-
Composition A - the morphing pipeline `generate(); simulate(); write_epw()` as one function.

End-to-end statements about `Morph.morph` (Model/Morph.lean) under the standing hypotheses `ValidRun` and
`WellFormed`, for EVERY physics `P` whose hourly record is the quadruple of written values. They join
  C01 `write_preserves`                 (text layer of `write_epw`),
  C02 `records_eq`, `written_row_stamp` (which step fills which record, which row it is written to),
  C03 `causal`                          (records 0..h depend on rural rows 0..h only),
  `simulate_prov`, `simulate_error_is_phys` of `Lemmas/Morph.lean` (C10 for this loop: a valid run returns all
                                        24·days records, each made from its own rural row, or the physics raised).
-/
import UwgVerif.Lemmas.Morph
import UwgVerif.Props.C01
import UwgVerif.Props.C03

namespace Uwg.Morph
open Uwg.Csv Uwg.Sim Uwg.C02 Uwg.C01

variable {S R D E : Type}

/-- The run parameters are acceptable: calendar start date, timestep positive and dividing one hour,
    at least one day, window inside the (non-leap) year. -/
structure ValidRun (dt M Dy days : Nat) : Prop where
  date : validDate M Dy
  dvd : dt ∣ 3600
  pos : 0 < dt
  days_pos : 0 < days
  inYear : dayOfYear0 M Dy + days ≤ 365

/-- The rural file is well-formed for this window; `nonl` and `nosingle` are what C01 `write_preserves` asks of the
    text. -/
structure WellFormed (hdr rows : List Row) (M Dy days : Nat) : Prop where
  hdr8 : hdr.length = 8
  fits : 24 * (dayOfYear0 M Dy + days) ≤ rows.length
  wide : ∀ i r, 24 * dayOfYear0 M Dy ≤ i → i < 24 * dayOfYear0 M Dy + 24 * days →
    rows[i]? = some r → 22 ≤ r.length
  nonl : ∀ r ∈ hdr ++ rows, ∀ c ∈ r, '\n' ∉ c ∧ '\r' ∉ c
  nosingle : ∀ r ∈ hdr ++ rows, r ≠ [[]]

/-- The four rewritten cells of data row `i` of `out` are the formatted values of `x`. -/
def WrittenAt (out : List Row) (i : Nat) (x : Res) (p : Nat) : Prop :=
  cellAt out i 6 = some (fmtFrac x.tdb p) ∧ cellAt out i 7 = some (fmtFrac x.tdp p) ∧
  cellAt out i 8 = some (fmtFrac x.rh p) ∧ cellAt out i 21 = some (fmtFrac x.wind p)

/-- Column `j` is one of the four columns `write_epw` rewrites. -/
def IsWrittenCol (j : Nat) : Prop := j = 6 ∨ j = 7 ∨ j = 8 ∨ j = 21

/-- `text` reads back as the header followed by `out` = the data rows `rows` with record `n` of `recs` (there are
    `24·days`) in cells 6, 7, 8, 21 of row `24·j₀ + n` and every other cell the rural cell. This is all the
    compositions say about the written file; it does not mention the physics. -/
structure Morphed (hdr rows : List Row) (M Dy days p : Nat) (text : List Char) (out : List Row)
    (recs : List Res) : Prop where
  parse : parseFile text = hdr ++ out
  length : out.length = rows.length
  widths : ∀ i : Nat, (out[i]?).map List.length = (rows[i]?).map List.length
  count : recs.length = 24 * days
  written : ∀ n, n < 24 * days → ∃ x, recs[n]? = some x ∧ WrittenAt out (24 * dayOfYear0 M Dy + n) x p
  kept : ∀ i j : Nat, ¬ (24 * dayOfYear0 M Dy ≤ i ∧ i < 24 * dayOfYear0 M Dy + 24 * days ∧ IsWrittenCol j) →
    cellAt out i j = cellAt rows i j

section Morphed
variable {hdr rows hdr' rows' : List Row} {M Dy days p : Nat} {text text' : List Char} {out out' : List Row}
  {recs : List Res}

/-- C01 `write_preserves` in the vocabulary of the compositions. -/
theorem Morphed.of_write (hw : WellFormed hdr rows M Dy days) (hrl : recs.length = 24 * days) :
    ∃ text out, writeEpw hdr rows (24 * dayOfYear0 M Dy) recs p = some text ∧
      Morphed hdr rows M Dy days p text out recs := by
  obtain ⟨text, out, hwr, hparse, hlen, hlens, hcells, hother⟩ :=
    write_preserves hdr rows (24 * dayOfYear0 M Dy) recs p hw.hdr8 (by have := hw.fits; omega)
      (fun i r h1 h2 h3 => hw.wide i r h1 (by omega) h3) hw.nonl hw.nosingle
  refine ⟨text, out, hwr, hparse, hlen, hlens, hrl, fun n hn => ?_, fun i j hnot => hother i j (hrl ▸ hnot)⟩
  have hlt : n < recs.length := by omega
  exact ⟨recs[n], List.getElem?_eq_getElem hlt, hcells _ recs[n] (by omega) (by omega)
    (by rw [Nat.add_sub_cancel_left]; exact List.getElem?_eq_getElem hlt)⟩

theorem Morphed.row_stamp (hm : Morphed hdr rows M Dy days p text out recs) (hv : validDate M Dy)
    (hfit : 24 * (dayOfYear0 M Dy + days) ≤ rows.length) (enc : Nat → Cell)
    (hst : ∀ k, k < rows.length → cellAt rows k 1 = some (enc (stamp k).1) ∧
      cellAt rows k 2 = some (enc (stamp k).2.1) ∧ cellAt rows k 3 = some (enc (stamp k).2.2))
    {n : Nat} (hn : n < 24 * days) :
    ∃ x, recs[n]? = some x ∧ writeRow M Dy n = 24 * dayOfYear0 M Dy + n ∧ WrittenAt out (writeRow M Dy n) x p ∧
      cellAt out (writeRow M Dy n) 1 = some (enc (trueCalendar (dayOfYear0 M Dy * 86400 + n * 3600)).month) ∧
      cellAt out (writeRow M Dy n) 2 = some (enc (trueCalendar (dayOfYear0 M Dy * 86400 + n * 3600)).day) ∧
      cellAt out (writeRow M Dy n) 3 =
        some (enc ((trueCalendar (dayOfYear0 M Dy * 86400 + n * 3600)).hourDay + 1)) := by
  obtain ⟨x, hx, hwx⟩ := hm.written n hn
  obtain ⟨_, hrow, _⟩ := written_row_stamp M Dy n hv
  obtain ⟨s1, s2, s3⟩ := hst (24 * dayOfYear0 M Dy + n) (by omega)
  obtain ⟨e1, e2, e3⟩ := stamp_fields (k := 24 * dayOfYear0 M Dy + n)
    (t := dayOfYear0 M Dy * 86400 + n * 3600) (by omega)
  have hk : ∀ j, j = 1 ∨ j = 2 ∨ j = 3 →
      cellAt out (24 * dayOfYear0 M Dy + n) j = cellAt rows (24 * dayOfYear0 M Dy + n) j :=
    fun j hj => hm.kept _ j (by unfold IsWrittenCol; omega)
  rw [hrow, hk 1 (by omega), hk 2 (by omega), hk 3 (by omega), s1, s2, s3, e1, e2, e3]
  exact ⟨x, hx, rfl, hwx, rfl, rfl, rfl⟩

theorem Morphed.written_eq {recs' : List Res} (hm : Morphed hdr rows M Dy days p text out recs)
    (hm' : Morphed hdr' rows' M Dy days p text' out' recs') {n j : Nat} (hn : n < 24 * days)
    (hrec : recs[n]? = recs'[n]?) (hj : IsWrittenCol j) :
    cellAt out (24 * dayOfYear0 M Dy + n) j = cellAt out' (24 * dayOfYear0 M Dy + n) j := by
  obtain ⟨x, hx, a6, a7, a8, a21⟩ := hm.written n hn
  obtain ⟨x', hx', b6, b7, b8, b21⟩ := hm'.written n hn
  rw [hrec, hx'] at hx
  cases hx
  rcases hj with rfl | rfl | rfl | rfl
  · rw [a6, b6]
  · rw [a7, b7]
  · rw [a8, b8]
  · rw [a21, b21]

theorem Morphed.agree (hm : Morphed hdr rows M Dy days p text out recs)
    (hm' : Morphed hdr' rows' M Dy days p text' out' recs) {i j : Nat}
    (hij : cellAt rows i j = cellAt rows' i j) : cellAt out i j = cellAt out' i j := by
  by_cases hin : 24 * dayOfYear0 M Dy ≤ i ∧ i < 24 * dayOfYear0 M Dy + 24 * days ∧ IsWrittenCol j
  · obtain ⟨h1, h2, hcol⟩ := hin
    obtain ⟨n, rfl⟩ := Nat.exists_eq_add_of_le h1
    exact hm.written_eq hm' (by omega) rfl hcol
  · rw [hm.kept i j hin, hm'.kept i j hin, hij]

end Morphed

theorem valid_of_wellFormed {hdr rows : List Row} {dt M Dy days : Nat} (hv : ValidRun dt M Dy days)
    (hw : WellFormed hdr rows M Dy days) (proj : Row → R) :
    Valid ⟨dt, M, Dy, days, ((window M Dy days rows).map proj).length⟩ :=
  ⟨hv.date, hv.dvd, hv.pos, hv.inYear, by simp [window_length hv.date hw.fits]⟩

private theorem weatherOk_window {hdr rows : List Row} {dt M Dy days : Nat} (hv : ValidRun dt M Dy days)
    (hw : WellFormed hdr rows M Dy days) : weatherOk (window M Dy days rows) = true := by
  have hlen := window_length hv.date hw.fits
  rw [weatherOk_iff]
  constructor
  · apply List.ne_nil_of_length_pos
    have := hv.days_pos
    omega
  · intro r hr
    obtain ⟨n, hn, rfl⟩ := List.getElem_of_mem hr
    have hlt : n < 24 * days := hlen ▸ hn
    have hr := List.getElem?_eq_getElem hn
    rw [window_getElem? hv.date hlt] at hr
    exact hw.wide _ _ (by omega) (by omega) hr

theorem simulateFile_prov {P : Phys S R D Res E} {b : Bool} {table : Nat → D} {mean : List R → D}
    {proj : Row → R} {init : Option R → S} {dt M Dy days : Nat} {hdr rows : List Row} {s : S} {recs : List Res}
    (hv : ValidRun dt M Dy days) (hw : WellFormed hdr rows M Dy days)
    (h : simulateFile P b table mean proj dt M Dy days rows init = .ok (s, recs)) :
    recs.length = 24 * days ∧
    ∀ n, n < 24 * days → ∃ s1 t r, rows[24 * dayOfYear0 M Dy + n]? = some r ∧
      recs[n]? = some (P.record s1 t (proj r)) := by
  obtain ⟨hrl, hat⟩ := simulate_prov (valid_of_wellFormed hv hw proj) h
  refine ⟨hrl, fun n hn => ?_⟩
  -- x, recs[n]? = some x; of `MadeBy`: s0, s1, t, r, t.recorded = true, its rows[n]? = some r, P.step .. = .ok s1, x = ..
  obtain ⟨_, h2, _, sb, t, r, _, h1, _, rfl⟩ := hat n hn
  rw [List.getElem?_map, window_getElem? hv.date hn] at h1
  obtain ⟨r0, hr0, rfl⟩ := Option.map_eq_some_iff.1 h1
  exact ⟨sb, t, r0, hr0, h2⟩

/-- **Anatomy of a well-formed run.** Under the standing hypotheses the pipeline has exactly two
    outcomes: either `simulate` returns with exactly `24·days` records, record `n` made by `P.record`
    from window row `n` (data row `24·j₀ + n`), `write_epw` succeeds on them and `morph` returns its
    text; or the physics raised and `morph` reports that exception. -/
theorem morph_cases (P : Phys S R D Res E) (b : Bool) (table : Nat → D) (mean : List R → D)
    (proj : Row → R) (init : Option R → S) (dt M Dy days p : Nat) (hdr rows : List Row)
    (hv : ValidRun dt M Dy days) (hw : WellFormed hdr rows M Dy days) :
    (∃ s recs text, simulateFile P b table mean proj dt M Dy days rows init = .ok (s, recs) ∧
      recs.length = 24 * days ∧
      (∀ n, n < 24 * days → ∃ s1 t r, rows[24 * dayOfYear0 M Dy + n]? = some r ∧
        recs[n]? = some (P.record s1 t (proj r))) ∧
      writeEpw hdr rows (24 * dayOfYear0 M Dy) recs p = some text ∧
      morph P b table mean proj init dt M Dy days p hdr rows = .ok text) ∨
    (∃ recs pe, simulateFile P b table mean proj dt M Dy days rows init = .error (recs, .phys pe) ∧
      morph P b table mean proj init dt M Dy days p hdr rows = .error (.sim (.phys pe))) := by
  have hcreate := (C04.create_ok_iff dt M Dy).2 ⟨hv.pos, hv.dvd⟩
  have hwok := weatherOk_window hv hw
  have hstart := startRow_eq hv.date
  unfold morph
  rw [hcreate]
  cases hsf : simulateFile P b table mean proj dt M Dy days rows init with
  | ok x =>
    obtain ⟨s, recs⟩ := x
    obtain ⟨hrl, hat⟩ := simulateFile_prov hv hw hsf
    obtain ⟨text, _, hwr, _⟩ := Morphed.of_write (p := p) hw hrl
    exact .inl ⟨s, recs, text, rfl, hrl, hat, hwr, by simp only [hwok, if_true, hstart, hwr]⟩
  | error x =>
    obtain ⟨recs, e⟩ := x
    obtain ⟨pe, rfl⟩ := simulate_error_is_phys (valid_of_wellFormed hv hw proj) hsf
    exact .inr ⟨recs, pe, rfl, by simp only [hwok, if_true]⟩

/-- **`morph_total`.** With valid parameters and a well-formed file the pipeline either writes a file
    or reports an exception raised by the physics: no other failure (timestep, missing forcing row,
    index error while reading or writing) is possible. -/
theorem morph_total (P : Phys S R D Res E) (b : Bool) (table : Nat → D) (mean : List R → D)
    (proj : Row → R) (init : Option R → S) (dt M Dy days p : Nat) (hdr rows : List Row)
    (hv : ValidRun dt M Dy days) (hw : WellFormed hdr rows M Dy days) :
    (∃ text, morph P b table mean proj init dt M Dy days p hdr rows = .ok text) ∨
    (∃ pe, morph P b table mean proj init dt M Dy days p hdr rows = .error (.sim (.phys pe))) := by
  rcases morph_cases P b table mean proj init dt M Dy days p hdr rows hv hw with
    ⟨_, _, text, _, _, _, _, h⟩ | ⟨_, pe, _, h⟩
  · exact .inl ⟨text, h⟩
  · exact .inr ⟨pe, h⟩

theorem morph_morphed {P : Phys S R D Res E} {b : Bool} {table : Nat → D} {mean : List R → D}
    {proj : Row → R} {init : Option R → S} {dt M Dy days p : Nat} {hdr rows : List Row}
    {text : List Char} (hv : ValidRun dt M Dy days) (hw : WellFormed hdr rows M Dy days)
    (h : morph P b table mean proj init dt M Dy days p hdr rows = .ok text) :
    ∃ out recs s, simulateFile P b table mean proj dt M Dy days rows init = .ok (s, recs) ∧
      Morphed hdr rows M Dy days p text out recs := by
  rcases morph_cases P b table mean proj init dt M Dy days p hdr rows hv hw with
    ⟨s, recs, text', hsf, hrl, _, hwr, hm⟩ | ⟨_, pe, _, hm⟩
  · cases hm.symm.trans h
    obtain ⟨_, out, hwr', hmo⟩ := Morphed.of_write (p := p) hw hrl
    cases hwr.symm.trans hwr'
    exact ⟨out, recs, s, hsf, hmo⟩
  · cases hm.symm.trans h

/-- **`morph_preserves`.** Whenever the pipeline writes a file, reading the written text back gives the
    8 header rows unchanged followed by data rows `out` with the same number of rows and, row by row,
    the same number of cells as the rural file; `simulate` returned exactly `N = 24·days` records; for
    EVERY hour `n < N` the cells 6, 7, 8, 21 of data row `24·j₀ + n` are the formatted values of record
    `n` (so no row of the window keeps its rural value by omission); and every other cell of every row
    - all columns of the rows outside `24·j₀ … 24·j₀ + N − 1`, all other columns inside - is identical
    to the rural cell. -/
theorem morph_preserves (P : Phys S R D Res E) (b : Bool) (table : Nat → D) (mean : List R → D)
    (proj : Row → R) (init : Option R → S) (dt M Dy days p : Nat) (hdr rows : List Row)
    (text : List Char) (hv : ValidRun dt M Dy days) (hw : WellFormed hdr rows M Dy days)
    (h : morph P b table mean proj init dt M Dy days p hdr rows = .ok text) :
    ∃ (out : List Row) (recs : List Res),
      parseFile text = hdr ++ out ∧
      out.length = rows.length ∧
      (∀ i : Nat, (out[i]?).map List.length = (rows[i]?).map List.length) ∧
      (∃ s, simulateFile P b table mean proj dt M Dy days rows init = .ok (s, recs)) ∧
      recs.length = 24 * days ∧
      (∀ n, n < 24 * days → ∃ x, recs[n]? = some x ∧ WrittenAt out (24 * dayOfYear0 M Dy + n) x p) ∧
      (∀ i j : Nat, ¬ (24 * dayOfYear0 M Dy ≤ i ∧ i < 24 * dayOfYear0 M Dy + 24 * days ∧ IsWrittenCol j) →
        cellAt out i j = cellAt rows i j) := by
  obtain ⟨out, recs, s, hsf, hm⟩ := morph_morphed hv hw h
  exact ⟨out, recs, hm.parse, hm.length, hm.widths, ⟨s, hsf⟩, hm.count, hm.written, hm.kept⟩

/-- **`morph_causal`.** For rural files with at least three ground depths (deep temperature = a monthly
    `table`, here ONE table and one `init` for both runs: what the header means is a parameter at this level, and the
    header lines themselves are only copied; `pipeline_causal` asks `readHeader hdr = readHeader hdr'` for it): if two
    well-formed rural files (all other rows arbitrary) have windows whose rows `0 … h` agree in the modelled columns,
    and the pipeline writes a file for both, then the rewritten cells (columns 6, 7, 8, 21) of the window rows
    `0 … h` are the same in the two written files. Whatever the rural rows after hour `h` contain, it does not reach
    hour `h`. -/
theorem morph_causal (P : Phys S R D Res E) (table : Nat → D) (mean : List R → D)
    (proj : Row → R) (init : Option R → S) (dt M Dy days p : Nat) (hdr hdr' rows rows' : List Row)
    (text text' : List Char) (h : Nat)
    (hv : ValidRun dt M Dy days) (hw : WellFormed hdr rows M Dy days) (hw' : WellFormed hdr' rows' M Dy days)
    (hh : h < 24 * days)
    (hagree : ((window M Dy days rows).map proj).take (h + 1) =
      ((window M Dy days rows').map proj).take (h + 1))
    (hm : morph P true table mean proj init dt M Dy days p hdr rows = .ok text)
    (hm' : morph P true table mean proj init dt M Dy days p hdr' rows' = .ok text') :
    ∃ out out' : List Row, parseFile text = hdr ++ out ∧ parseFile text' = hdr' ++ out' ∧
      ∀ n j, n ≤ h → IsWrittenCol j →
        cellAt out (24 * dayOfYear0 M Dy + n) j = cellAt out' (24 * dayOfYear0 M Dy + n) j := by
  obtain ⟨out, recs, s, hsf, hmo⟩ := morph_morphed hv hw hm
  obtain ⟨out', recs', s', hsf', hmo'⟩ := morph_morphed hv hw' hm'
  have hcausal : (recordsOf (simulateFile P true table mean proj dt M Dy days rows init)).take (h + 1) =
      (recordsOf (simulateFile P true table mean proj dt M Dy days rows' init)).take (h + 1) := by
    -- both runs start from the same state: the windows have the same first row
    have hhead : ((window M Dy days rows').map proj).head? = ((window M Dy days rows).map proj).head? := by
      simpa [List.head?_eq_getElem?] using (getElem?_of_take_eq hagree (Nat.succ_pos h)).symm
    simp only [simulateFile, hhead]
    exact C03.causal P table dt M Dy days _ _ _ h (valid_of_wellFormed hv hw proj)
      (valid_of_wellFormed hv hw' proj) hh hagree
  rw [hsf, hsf'] at hcausal
  exact ⟨out, out', hmo.parse, hmo'.parse, fun n j hn hcol =>
    hmo.written_eq hmo' (by omega) (getElem?_of_take_eq hcausal (by omega)) hcol⟩

/-- `morph_causal` for files that agree on the window rows `0 … h` themselves. -/
theorem morph_causal_rows (P : Phys S R D Res E) (table : Nat → D) (mean : List R → D)
    (proj : Row → R) (init : Option R → S) (dt M Dy days p : Nat) (hdr hdr' rows rows' : List Row)
    (text text' : List Char) (h : Nat)
    (hv : ValidRun dt M Dy days) (hw : WellFormed hdr rows M Dy days) (hw' : WellFormed hdr' rows' M Dy days)
    (hh : h < 24 * days)
    (hagree : ∀ n, n ≤ h → rows[24 * dayOfYear0 M Dy + n]? = rows'[24 * dayOfYear0 M Dy + n]?)
    (hm : morph P true table mean proj init dt M Dy days p hdr rows = .ok text)
    (hm' : morph P true table mean proj init dt M Dy days p hdr' rows' = .ok text') :
    ∃ out out' : List Row, parseFile text = hdr ++ out ∧ parseFile text' = hdr' ++ out' ∧
      ∀ n j, n ≤ h → IsWrittenCol j →
        cellAt out (24 * dayOfYear0 M Dy + n) j = cellAt out' (24 * dayOfYear0 M Dy + n) j := by
  refine morph_causal (hv := hv) (hw := hw) (hw' := hw') (hh := hh) (hm := hm) (hm' := hm') (hagree := ?_) ..
  exact window_map_take_congr hv.date proj hh fun n hn => by rw [hagree n hn]

/-- **`morph_row_stamp`.** Whenever the pipeline writes a file, record `n` (the canyon state at the end
    of hour `n` of the run) is written to data row `writeRow M D n = 24·j₀ + n`, and - if the rural file
    carries the conventional hour-ending stamps (row `k` has month, day, hour of `stamp k` in columns
    1, 2, 3, spelt by any `enc`; checked per file by the harness) - that output row still carries, in
    columns 1, 2, 3, the calendar date of the instant `start + n hours` with hour number
    `hour(start + n h) + 1`: the row written for hour `n` is the row stamped start + n hours. -/
theorem morph_row_stamp (P : Phys S R D Res E) (b : Bool) (table : Nat → D) (mean : List R → D)
    (proj : Row → R) (init : Option R → S) (dt M Dy days p : Nat) (hdr rows : List Row)
    (text : List Char) (enc : Nat → Cell)
    (hv : ValidRun dt M Dy days) (hw : WellFormed hdr rows M Dy days)
    (hst : ∀ k, k < rows.length → cellAt rows k 1 = some (enc (stamp k).1) ∧
      cellAt rows k 2 = some (enc (stamp k).2.1) ∧ cellAt rows k 3 = some (enc (stamp k).2.2))
    (h : morph P b table mean proj init dt M Dy days p hdr rows = .ok text) :
    ∃ (out : List Row) (recs : List Res), parseFile text = hdr ++ out ∧
      (∃ s, simulateFile P b table mean proj dt M Dy days rows init = .ok (s, recs)) ∧
      ∀ n, n < 24 * days → ∃ x, recs[n]? = some x ∧
        writeRow M Dy n = 24 * dayOfYear0 M Dy + n ∧
        WrittenAt out (writeRow M Dy n) x p ∧
        cellAt out (writeRow M Dy n) 1 =
          some (enc (trueCalendar (dayOfYear0 M Dy * 86400 + n * 3600)).month) ∧
        cellAt out (writeRow M Dy n) 2 =
          some (enc (trueCalendar (dayOfYear0 M Dy * 86400 + n * 3600)).day) ∧
        cellAt out (writeRow M Dy n) 3 =
          some (enc ((trueCalendar (dayOfYear0 M Dy * 86400 + n * 3600)).hourDay + 1)) := by
  obtain ⟨out, recs, s, hsf, hm⟩ := morph_morphed hv hw h
  exact ⟨out, recs, hm.parse, ⟨s, hsf⟩, fun n hn => hm.row_stamp hv.date hw.fits enc hst hn⟩

/-- **`morph_wind`.** Hypothesis on the physics, stated explicitly: its record copies the forcing wind
    as the real `simulate` does (`forc.wind = max(forcIP.wind[row], windMin)`, `WeatherData[n] =
    copy(forc)`), i.e. `(P.record s t r).wind = toFrac (max (windOf r) windMin)` for the rural row `r`
    the step read. Then, whenever the pipeline writes a file, the wind cell (column 21) of data row
    `24·j₀ + n` is `fmtFrac (toFrac (max wind[n] windMin))`, where `wind[n]` is the wind of rural row
    `24·j₀ + n` itself: hour `n` gets the wind of its own rural row, raised to the minimum wind. -/
theorem morph_wind {W : Type} [Max W] (P : Phys S R D Res E) (b : Bool) (table : Nat → D)
    (mean : List R → D) (proj : Row → R) (init : Option R → S) (dt M Dy days p : Nat)
    (hdr rows : List Row) (text : List Char) (windOf : R → W) (toFrac : W → Frac) (windMin : W)
    (hrec : ∀ s t r, (P.record s t r).wind = toFrac (max (windOf r) windMin))
    (hv : ValidRun dt M Dy days) (hw : WellFormed hdr rows M Dy days)
    (h : morph P b table mean proj init dt M Dy days p hdr rows = .ok text) :
    ∃ out : List Row, parseFile text = hdr ++ out ∧
      ∀ n, n < 24 * days → ∃ r, rows[24 * dayOfYear0 M Dy + n]? = some r ∧
        cellAt out (24 * dayOfYear0 M Dy + n) 21 =
          some (fmtFrac (toFrac (max (windOf (proj r)) windMin)) p) := by
  obtain ⟨out, recs, s, hsf, hm⟩ := morph_morphed hv hw h
  obtain ⟨_, hat⟩ := simulateFile_prov hv hw hsf
  refine ⟨out, hm.parse, fun n hn => ?_⟩
  obtain ⟨s1, t, r, hr, hx⟩ := hat n hn
  obtain ⟨x, hx', hwx⟩ := hm.written n hn
  rw [hx] at hx'
  cases hx'
  exact ⟨r, hr, by rw [hwx.2.2.2, hrec]⟩

/-- **`morph_fail_stop`.** If the timestep is zero or does not divide one hour, or `simulate` raises
    (the physics raised, or a forcing row is missing because the window runs past the file), the
    pipeline yields no file - for any file and any parameters, no hypothesis on well-formedness. -/
theorem morph_fail_stop (P : Phys S R D Res E) (b : Bool) (table : Nat → D) (mean : List R → D)
    (proj : Row → R) (init : Option R → S) (dt M Dy days p : Nat) (hdr rows : List Row)
    (hbad : ¬ (0 < dt ∧ dt ∣ 3600) ∨
      ∃ x, simulateFile P b table mean proj dt M Dy days rows init = .error x) :
    ∃ e, morph P b table mean proj init dt M Dy days p hdr rows = .error e := by
  unfold morph
  cases hc : Clock.create dt M Dy with
  | error e => exact ⟨.timestep e, rfl⟩
  | ok c =>
    simp only []
    rcases hbad with hdt | ⟨x, hx⟩
    · exact absurd (Clock.create_ok hc) hdt
    · by_cases hwk : weatherOk (window M Dy days rows) = true
      · rw [if_pos hwk, hx]
        exact ⟨.sim x.2, rfl⟩
      · rw [if_neg hwk]
        exact ⟨.weather, rfl⟩

/-- The refused timestep is reported as such, before any row of the file is looked at. -/
theorem morph_timestep_refused (P : Phys S R D Res E) (b : Bool) (table : Nat → D) (mean : List R → D)
    (proj : Row → R) (init : Option R → S) (dt M Dy days p : Nat) (hdr rows : List Row)
    (hbad : ¬ (0 < dt ∧ dt ∣ 3600)) :
    ∃ e, morph P b table mean proj init dt M Dy days p hdr rows = .error (.timestep e) := by
  obtain ⟨e, he⟩ := Clock.create_raises M Dy hbad
  refine ⟨e, ?_⟩
  unfold morph
  rw [he]

/-! ### Non-vacuity -/

/-- A concrete run and file meeting the standing hypotheses (1 January, one day, dt = 300 s; 24 data rows
    of 22 cells, header cells with a comma), a physics that never raises: the pipeline writes a file. -/
example :
    let rows : List Row := List.replicate 24 (List.replicate 22 ['0'])
    let hdr : List Row := List.replicate 8 [['H'], ['x', ',', 'y']]
    let P : Phys Nat Nat Nat Res Unit :=
      { step := fun s _ r _ => .ok (s + r), record := fun s _ _ => ⟨⟨s, 1⟩, ⟨1, 2⟩, ⟨50, 1⟩, ⟨3, 1⟩⟩ }
    ValidRun 300 1 1 1 ∧ WellFormed hdr rows 1 1 1 ∧
    ∃ text, morph P true (fun m => m) (fun _ => 0) (fun r => r.length) (fun _ => 0) 300 1 1 1 1 hdr rows
      = .ok text := by
  intro rows hdr P
  have hv : ValidRun 300 1 1 1 := ⟨by decide, by decide, by decide, by decide, by decide⟩
  have hw : WellFormed hdr rows 1 1 1 := by
    refine ⟨by decide, by decide, ?_, by decide, by decide⟩
    intro i r _ _ hr
    rw [List.eq_of_mem_replicate (List.mem_of_getElem? hr)]
    decide
  refine ⟨hv, hw, ?_⟩
  rcases morph_cases P true (fun m => m) (fun _ => 0) (fun r => r.length) (fun _ => 0) 300 1 1 1 1 hdr rows
    hv hw with ⟨_, _, text, _, _, _, _, h⟩ | ⟨recs, pe, hsf, _⟩
  · exact ⟨text, h⟩
  · -- the physics never raises
    unfold simulateFile at hsf
    obtain ⟨_, _, _, hstep⟩ := simulate_phys_error hsf
    cases hstep

end Uwg.Morph
