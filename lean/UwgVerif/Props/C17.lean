/-
C17 — generate() forgets the object's past.
-/
import UwgVerif.Model.Lifecycle

namespace Uwg.C17
open Uwg.Life
variable {P L B R : Type}

theorem run_append (M : Machine P L B R) (asis : Bool) (o : Obj P L B R) (a b : List (Op P)) :
    run M asis o (a ++ b) = run M asis (run M asis o a) b := by
  simp [run, List.foldl_append]

/-- The state after `generate` is a function of the parameters alone. -/
theorem generate_depends_on_params_only (M : Machine P L B R) (o o' : Obj P L B R)
    (h : o.params = o'.params) :
    (generate M o).lib = (generate M o').lib ∧ (generate M o).built = (generate M o').built := by
  simp [generate, h]

theorem generate_simulate_eq (M : Machine P L B R) (o : Obj P L B R) :
    simulate M (generate M o) = simulate M (generate M (fresh M o.params)) := by
  simp [generate, simulate, fresh]

/-- T1 for the whole object, of which `generate_forgets` states the two fields a caller observes. -/
theorem generate_forgets_obj (M : Machine P L B R) (h : List (Op P)) (o : Obj P L B R) :
    run M false o (h ++ [.generate, .simulate]) =
      run M false (fresh M (run M false o h).params) [.generate, .simulate] := by
  rw [run_append]
  exact generate_simulate_eq M _

/-- T1. For every history `h` (any sequence of parameter assignments, generate and simulate calls)
    on any object, `generate; simulate` afterwards gives exactly the result a fresh object with the
    same current parameter values gives — for every machine, i.e. whatever the physics computes. -/
theorem generate_forgets (M : Machine P L B R) (h : List (Op P)) (o : Obj P L B R) :
    (run M false o (h ++ [.generate, .simulate])).last =
      (run M false (fresh M (run M false o h).params) [.generate, .simulate]).last ∧
    (run M false o (h ++ [.generate, .simulate])).built =
      (run M false (fresh M (run M false o h).params) [.generate, .simulate]).built := by
  rw [generate_forgets_obj]
  exact ⟨rfl, rfl⟩

/-- Parameter values that were set earlier and have since been changed back leave no trace:
    only the *current* parameters enter (corollary of T1 with the history `[set f, …, set g]`
    where `g ∘ f = id`). -/
theorem set_and_reset_forgotten (M : Machine P L B R) (f g : P → P) (hfg : ∀ p, g (f p) = p)
    (p : P) :
    (run M false (fresh M p) [.set f, .generate, .simulate, .set g, .generate, .simulate]).last =
      (run M false (fresh M p) [.generate, .simulate]).last := by
  refine (generate_forgets M [.set f, .generate, .simulate, .set g] (fresh M p)).1.trans ?_
  simp [run, step, fresh, generate, simulate, hfg]

/-- T2. The unrepaired `generate` (which kept the object's current library) is history dependent:
    in the toy machine a second `generate; simulate` starts from archetypes dirtied by the first,
    and an override that was set and then unset sticks. -/
theorem asis_history_dependent :
    let M := toy [⟨300, 200, 300, 200, false⟩]
    (run M true (fresh M ⟨none, none⟩) [.generate, .simulate, .generate, .simulate]).last ≠
      (run M true (fresh M ⟨none, none⟩) [.generate, .simulate]).last ∧
    (run M true (fresh M ⟨none, none⟩)
        [.set (fun _ => ⟨some 0, none⟩), .generate, .set (fun _ => ⟨none, none⟩), .generate, .simulate]).last ≠
      (run M true (fresh M ⟨none, none⟩) [.generate, .simulate]).last := by
  decide

/-- The same two histories on the repaired machine agree with the fresh object (instance of T1,
    also a non-vacuity check of the toy instance). -/
example :
    let M := toy [⟨300, 200, 300, 200, false⟩]
    (run M false (fresh M ⟨none, none⟩) [.generate, .simulate, .generate, .simulate]).last =
      (run M false (fresh M ⟨none, none⟩) [.generate, .simulate]).last ∧
    (run M false (fresh M ⟨none, none⟩)
        [.set (fun _ => ⟨some 0, none⟩), .generate, .set (fun _ => ⟨none, none⟩), .generate, .simulate]).last =
      (run M false (fresh M ⟨none, none⟩) [.generate, .simulate]).last := by
  decide

end Uwg.C17
