/-
C02 — "Each simulated hour is driven by and written to its own rural row".

The theorems are about the driver model (`Model/Driver.lean`: the loop of `simulate`, the row `write_epw` writes),
with C04 for the clock, under the standing hypotheses `Valid`: the start date is a calendar date, the timestep is
positive and divides one hour, the window lies inside the year, and the rural file provides at least the `24·days`
rows of the window.
-/
import UwgVerif.Lemmas.Driver
import UwgVerif.Props.C04

namespace Uwg.C02

structure Valid (cfg : DrvCfg) : Prop where
  date : validDate cfg.M cfg.D
  dvd : cfg.dt ∣ 3600
  pos : 0 < cfg.dt
  inYear : dayOfYear0 cfg.M cfg.D + cfg.days ≤ 365
  rows : 24 * cfg.days ≤ cfg.rows

/-- Clock state after `k` calls of `update_date` (the start state if the clock had raised, which it does
not inside the window: `clockAt_run`). -/
def clockAt (dt M D k : Nat) : Clock := (Clock.run dt k (Clock.init M D)).getD (Clock.init M D)

theorem steps_mul {cfg : DrvCfg} (h : Valid cfg) : (nt cfg.dt cfg.days - 1) * cfg.dt = cfg.days * 86400 := by
  unfold nt
  rw [Nat.add_sub_cancel]
  exact Nat.div_mul_cancel (dvd_days h.dvd cfg.days)

theorem clockAt_run {cfg : DrvCfg} (h : Valid cfg) (k : Nat) (hk : k ≤ nt cfg.dt cfg.days - 1) :
    Clock.run cfg.dt k (Clock.init cfg.M cfg.D) = some (clockAt cfg.dt cfg.M cfg.D k) ∧
    (clockAt cfg.dt cfg.M cfg.D k).secDay = (dayOfYear0 cfg.M cfg.D * 86400 + k * cfg.dt) % 86400 := by
  -- every step index of the loop stays inside the year; the last may touch 31 December 24:00
  have hy : dayOfYear0 cfg.M cfg.D * 86400 + k * cfg.dt ≤ 365 * 86400 := by
    have h1 := steps_mul h
    have h2 : k * cfg.dt ≤ (nt cfg.dt cfg.days - 1) * cfg.dt := Nat.mul_le_mul_right _ hk
    have h3 := h.inYear
    omega
  unfold clockAt
  by_cases hlt : dayOfYear0 cfg.M cfg.D * 86400 + k * cfg.dt < 365 * 86400
  · rw [C04.clock_correct cfg.M cfg.D cfg.dt k h.date h.dvd h.pos hlt]
    exact ⟨rfl, rfl⟩
  · have he : dayOfYear0 cfg.M cfg.D * 86400 + k * cfg.dt = 365 * 86400 := by omega
    rw [C04.year_end cfg.M cfg.D cfg.dt k h.date h.dvd h.pos he, he]
    exact ⟨rfl, rfl⟩

/-- Inside the year the clock seen at step `it` is the true calendar at `start + it·dt` (C04). -/
theorem clockAt_eq (cfg : DrvCfg) (h : Valid cfg) (it : Nat)
    (hlt : dayOfYear0 cfg.M cfg.D * 86400 + it * cfg.dt < 365 * 86400) :
    clockAt cfg.dt cfg.M cfg.D it = trueCalendar (dayOfYear0 cfg.M cfg.D * 86400 + it * cfg.dt) := by
  unfold clockAt
  rw [C04.clock_correct cfg.M cfg.D cfg.dt it h.date h.dvd h.pos hlt]
  rfl

/-- **Trace theorem.** Under the standing hypotheses the loop raises nothing and its observable trace is,
for `it = 1 .. nt−1`: forcing row `⌊(it·dt − 1)/3600⌋`, the clock after `it` updates (the true calendar
at `start + it·dt` by `clockAt_eq`), its day type, record counter equal to the forcing row, a record taken
exactly when `it·dt` is a whole number of hours, and the ground-temperature month taken from the clock
after `it − 1` updates. -/
theorem driver_trace (cfg : DrvCfg) (h : Valid cfg) :
    driver cfg = .ok ((List.range' 1 (nt cfg.dt cfg.days - 1)).map
      (stepSpec cfg.dt (clockAt cfg.dt cfg.M cfg.D))) := by
  have hcreate := (C04.create_ok_iff cfg.dt cfg.M cfg.D).2 ⟨h.pos, h.dvd⟩
  have hmul := steps_mul h
  unfold driver
  rw [hcreate]
  have hupd : ∀ k, k < nt cfg.dt cfg.days - 1 →
      Clock.update cfg.dt (clockAt cfg.dt cfg.M cfg.D k) = some (clockAt cfg.dt cfg.M cfg.D (k + 1)) := by
    intro k hk
    have h1 := (clockAt_run h k (by omega)).1
    have h2 := (clockAt_run h (k + 1) (by omega)).1
    rw [Clock.run_succ_last, h1, Option.bind_some] at h2
    exact h2
  have hsec : ∀ k, k ≤ nt cfg.dt cfg.days - 1 →
      (clockAt cfg.dt cfg.M cfg.D k).secDay % 3600 = (k * cfg.dt) % 3600 := by
    intro k hk
    rw [(clockAt_run h k hk).2]
    omega
  have hK : (nt cfg.dt cfg.days - 1) * cfg.dt ≤ 3600 * (24 * cfg.days) := by omega
  have hstart : clockAt cfg.dt cfg.M cfg.D 0 = Clock.init cfg.M cfg.D := rfl
  have := drvLoop_returns h.dvd h.pos (clockAt cfg.dt cfg.M cfg.D) hupd hsec hK h.rows
    (nt cfg.dt cfg.days - 1) 0 (by omega)
  simpa [hstart] using this

/-- **Look-ups see the true calendar (the second sentence of C04).** At every step `it` that ends inside the year, the
quantities the loop body uses for its look-ups are those of the true calendar: schedules are indexed with
the day type and hour of `start + it·dt` and the season test sees its month (all read after the clock
advance), while the ground temperature is indexed with the month of `start + (it−1)·dt` (read before). -/
theorem lookups_true_calendar (cfg : DrvCfg) (h : Valid cfg) (it : Nat) (hit : 1 ≤ it)
    (hlt : dayOfYear0 cfg.M cfg.D * 86400 + it * cfg.dt < 365 * 86400) :
    (stepSpec cfg.dt (clockAt cfg.dt cfg.M cfg.D) it).month =
        (trueCalendar (dayOfYear0 cfg.M cfg.D * 86400 + it * cfg.dt)).month ∧
    (stepSpec cfg.dt (clockAt cfg.dt cfg.M cfg.D) it).hourDay =
        (trueCalendar (dayOfYear0 cfg.M cfg.D * 86400 + it * cfg.dt)).hourDay ∧
    (stepSpec cfg.dt (clockAt cfg.dt cfg.M cfg.D) it).dayType =
        trueDayType ((dayOfYear0 cfg.M cfg.D * 86400 + it * cfg.dt) / 86400) ∧
    (stepSpec cfg.dt (clockAt cfg.dt cfg.M cfg.D) it).monthBefore =
        (trueCalendar (dayOfYear0 cfg.M cfg.D * 86400 + (it - 1) * cfg.dt)).month := by
  have hle : (it - 1) * cfg.dt ≤ it * cfg.dt := Nat.mul_le_mul_right _ (by omega)
  have e1 := clockAt_eq cfg h it hlt
  have e2 := clockAt_eq cfg h (it - 1) (by omega)
  exact ⟨congrArg Clock.month e1, congrArg Clock.hourDay e1,
    (congrArg (fun c : Clock => dayType c.julian) e1).trans (C04.dayType_correct _), congrArg Clock.month e2⟩

/-- **T1 `rowIdx_spec`.** For every step `it ≥ 1`, `ceil_time_step` is the index of the hour that contains
the step's time interval `((it−1)·dt, it·dt]`: `rowIdx = ⌊(it·dt − 1)/3600⌋`, and the whole interval lies
inside `[3600·rowIdx, 3600·(rowIdx+1)]`. -/
theorem rowIdx_spec (dt it : Nat) (hdt : dt ∣ 3600) (hpos : 0 < dt) (hit : 1 ≤ it) :
    rowIdx dt it = (it * dt - 1) / 3600 ∧
    3600 * rowIdx dt it ≤ (it - 1) * dt ∧ it * dt ≤ 3600 * (rowIdx dt it + 1) := by
  obtain ⟨j, rfl⟩ : ∃ j, it = j + 1 := ⟨it - 1, by omega⟩
  have h1 := rowIdx_eq hpos (Nat.le_add_left 1 j)
  have h2 := counter_eq_row hdt hpos j
  have h3 : 1 ≤ (j + 1) * dt := Nat.mul_pos (Nat.succ_pos j) hpos
  rw [Nat.add_sub_cancel, h1]
  omega

theorem records_trace {cfg : DrvCfg} (h : Valid cfg) :
    records ((List.range' 1 (nt cfg.dt cfg.days - 1)).map (stepSpec cfg.dt (clockAt cfg.dt cfg.M cfg.D))) =
      (List.range (24 * cfg.days)).map (recSpec cfg.dt) := by
  rw [records_spec h.dvd h.pos, steps_mul h]
  congr 2
  omega

/-- **`records_eq`: T3 as one equation of lists.** The record events of a run are exactly, in order, one per slot
`n = 0 .. N−1` (`N = 24·days`): slot `n` is filled at loop index `3600(n+1)/dt` from forcing row `n`. -/
theorem records_eq (cfg : DrvCfg) (h : Valid cfg) :
    ∃ tr, driver cfg = .ok tr ∧
      records tr = (List.range (24 * cfg.days)).map (recSpec cfg.dt) :=
  ⟨_, driver_trace cfg h, records_trace h⟩

/-- **T2 `record_row`.** Every record event `(n, it, row)` of a run is taken at the step that ends hour
`n` of the window, `it·dt = 3600·(n+1)`, the forcing row in force at that step is `row = n`, and this is
the value of `ceil_time_step` there. -/
theorem record_row (cfg : DrvCfg) (h : Valid cfg) :
    ∃ tr, driver cfg = .ok tr ∧
      ∀ r ∈ records tr, r.2.1 * cfg.dt = 3600 * (r.1 + 1) ∧ r.2.2 = r.1 ∧ rowIdx cfg.dt r.2.1 = r.1 ∧
        r.1 < 24 * cfg.days := by
  obtain ⟨tr, htr, hrec⟩ := records_eq cfg h
  refine ⟨tr, htr, ?_⟩
  intro r hr
  rw [hrec, List.mem_map] at hr
  obtain ⟨n, hn, rfl⟩ := hr
  have hn' : n < 24 * cfg.days := by simpa using hn
  have hmul := recSpec_it_mul h.dvd n
  have hit : 1 ≤ 3600 * (n + 1) / cfg.dt := Nat.pos_of_ne_zero fun h0 => by
    rw [h0] at hmul
    omega
  refine ⟨hmul, rfl, ?_, hn'⟩
  show rowIdx cfg.dt (3600 * (n + 1) / cfg.dt) = n
  rw [rowIdx_eq h.pos hit, hmul]
  omega

/-- **T3 `records_complete`.** A run raises nothing (in particular no `IndexError`), makes `nt − 1` steps,
takes exactly `N = 24·days` records filling slots `0, 1, …, N−1` in this order, every step reads a forcing
row `< N` equal to the current record counter, and (for `days > 0`) the last record is taken at the last
step `it = nt − 1`. -/
theorem records_complete (cfg : DrvCfg) (h : Valid cfg) :
    ∃ tr, driver cfg = .ok tr ∧
      tr.length = nt cfg.dt cfg.days - 1 ∧
      (records tr).length = 24 * cfg.days ∧
      (records tr).map (·.1) = List.range (24 * cfg.days) ∧
      (∀ t ∈ tr, t.row < 24 * cfg.days ∧ t.row = t.nBefore) ∧
      (0 < cfg.days → (records tr).getLast? =
        some (24 * cfg.days - 1, nt cfg.dt cfg.days - 1, 24 * cfg.days - 1)) := by
  have hrec := records_trace h
  have hmul := steps_mul h
  refine ⟨_, driver_trace cfg h, ?_, ?_, ?_, ?_, ?_⟩
  · simp
  · rw [hrec]; simp
  · rw [hrec, List.map_map]
    exact List.map_id'' (fun _ => rfl) _
  · intro t ht
    rw [List.mem_map] at ht
    obtain ⟨it, hit, rfl⟩ := ht
    rw [List.mem_range'_1] at hit
    have h1 : it * cfg.dt ≤ (nt cfg.dt cfg.days - 1) * cfg.dt := Nat.mul_le_mul_right _ (by omega)
    have h2 : 1 ≤ it * cfg.dt := Nat.mul_pos hit.1 h.pos
    refine ⟨?_, rfl⟩
    show (it * cfg.dt - 1) / 3600 < 24 * cfg.days
    omega
  · intro hd
    rw [hrec, List.getLast?_map, List.getLast?_range]
    have hne : 24 * cfg.days ≠ 0 := by omega
    simp only [hne, if_false, Option.map_some, recSpec]
    have e : 24 * cfg.days - 1 + 1 = 24 * cfg.days := by omega
    have e2 : 3600 * (24 * cfg.days) = (nt cfg.dt cfg.days - 1) * cfg.dt := by omega
    rw [e, e2, Nat.mul_div_cancel _ h.pos]

/-- The window read from the rural file has exactly `N = 24·days` rows, file rows
`timeInitial .. timeFinal` (header included in the count), i.e. data rows `24·j₀ .. 24·j₀ + N − 1`. -/
theorem window_rows (M D days : Nat) (hd : 0 < days) :
    timeFinal M D days + 1 - timeInitial M D = 24 * days ∧
    timeInitial M D - 8 = 24 * (Clock.init M D).julian := by
  unfold timeFinal timeInitial
  omega

/-- A window that lies inside the file (`24·(j₀ + days) ≤ fileRows`, e.g. `j₀ + days ≤ 365` for an hourly
non-leap file) gives the loop exactly `24·days` rural rows. -/
theorem window_rows_file (M D days fileRows : Nat)
    (hfit : 24 * ((Clock.init M D).julian + days) ≤ fileRows) :
    windowRows M D days fileRows = 24 * days := by
  unfold windowRows timeFinal timeInitial
  omega

/-- **T4 `written_row_stamp`.** Record slot `n` is written to data row `24·j₀ + n` of the file, which is
the `n`-th row of the window that was read, and — in the EPW hour-ending convention, where data row `k`
carries day `k/24` and hour number `k%24 + 1` — the stamp of that row is the calendar date of the instant
`start + n hours` with hour number `hour(start + n h) + 1`: the row describes the hour that *begins*
`n` hours after the start. -/
theorem written_row_stamp (M D n : Nat) (hv : validDate M D) :
    writeRow M D n = timeInitial M D - 8 + n ∧
    writeRow M D n = 24 * dayOfYear0 M D + n ∧
    stamp (writeRow M D n) =
      ((trueCalendar (dayOfYear0 M D * 86400 + n * 3600)).month,
       (trueCalendar (dayOfYear0 M D * 86400 + n * 3600)).day,
       (trueCalendar (dayOfYear0 M D * 86400 + n * 3600)).hourDay + 1) := by
  have hw : writeRow M D n = 24 * dayOfYear0 M D + n := by
    unfold writeRow timeInitial
    rw [Clock.init_julian hv]
    omega
  refine ⟨?_, hw, hw ▸ stamp_eq (by omega)⟩
  unfold writeRow timeInitial
  omega

/-- **T5 `wind_recorded`.** What is stored in record slot `n` (and later formatted into the wind column of
file row `24·j₀ + n`) is the forcing of rural row `n` of the window: every forcing value verbatim and
`wind = max wind[n] windMin`. Stated for any type of values with a `max`. -/
theorem wind_recorded {W : Type} [Max W] (cfg : DrvCfg) (h : Valid cfg) (windMin : W)
    (rural : List (Rural W)) (hlen : rural.length = cfg.rows) :
    ∃ tr, driver cfg = .ok tr ∧
      weatherData windMin rural tr =
        (List.range (24 * cfg.days)).map (fun n =>
          (n, (rural[n]?).map (fun r => ({ wind := max r.wind windMin, other := r.other } : Rural W)))) ∧
      ∀ n, n < 24 * cfg.days → ∃ r, rural[n]? = some r := by
  obtain ⟨tr, htr, hrec⟩ := records_eq cfg h
  refine ⟨tr, htr, ?_, ?_⟩
  · unfold weatherData
    rw [hrec, List.map_map]
    rfl
  · intro n hn
    have : n < rural.length := by have := h.rows; omega
    exact ⟨rural[n], List.getElem?_eq_getElem this⟩

/-- `m / 2^k` is the IEEE-754 binary64 value nearest to the positive rational `p / q`
(round-to-nearest, ties to even; normalised 53-bit significand `2^52 ≤ m < 2^53`):
`|p/q − m/2^k| ≤ ½·2^(−k)`, with an even significand in case of equality. -/
def IsRN64 (p q m k : Nat) : Prop :=
  2 ^ 52 ≤ m ∧ m < 2 ^ 53 ∧
  2 * (p * 2 ^ k - m * q) ≤ q ∧ 2 * (m * q - p * 2 ^ k) ≤ q ∧
  ((2 * (p * 2 ^ k - m * q) = q ∨ 2 * (m * q - p * 2 ^ k) = q) → m % 2 = 0)

instance (p q m k : Nat) : Decidable (IsRN64 p q m k) := by unfold IsRN64; infer_instance

/-- **T6 `asis_float_rowidx_wrong`.** The formula the code used before the repair,
`int(ceil(it * (dt / 3600.))) - 1` in double precision, selects row 7 at `dt = 48`, `it = 525`
(`it·dt = 25200 s = 7 h` exactly, so the step still belongs to hour 6): the double nearest to `48/3600` is
`ph = 7686143364045647 / 2^59`, the double nearest to `525·ph` is `7881299347898369 / 2^50 > 7`, its ceiling
is 8. The integer formula of the repaired code gives 6. -/
theorem asis_float_rowidx_wrong :
    IsRN64 48 3600 7686143364045647 59 ∧
    IsRN64 (525 * 7686143364045647) (2 ^ 59) 7881299347898369 50 ∧
    (7881299347898369 + 2 ^ 50 - 1) / 2 ^ 50 - 1 = 7 ∧
    rowIdx 48 525 = 6 := by
  decide

/-! ### Non-vacuity -/

/-- A configuration satisfying the standing hypotheses: 27 February, 3 days, dt = 300 s. -/
example : Valid { dt := 300, M := 2, D := 27, days := 3, rows := 72 } :=
  ⟨by decide, by decide, by decide, by decide, by decide⟩

/-- Its 12th step (first full hour) records slot 0 from row 0; step 13 reads row 1. -/
example : rowIdx 300 12 = 0 ∧ rowIdx 300 13 = 1 ∧ recSpec 300 0 = (0, 12, 0) ∧ nt 300 3 = 865 := by decide

/-- The timestep 48 s, where the float formula `ceil(it*dt/3600.)` used to go wrong at `it = 525`
(`it·dt = 25200 = 7 h`): the integer formula gives row 6. -/
example : rowIdx 48 525 = 6 := by decide

/-- Slot 0 of a run starting 1 March is written to data row 1416, stamped 3/1 hour 1. -/
example : writeRow 3 1 0 = 1416 ∧ stamp 1416 = (3, 1, 1) := by decide

end Uwg.C02
