/-
C15 — Air-node updates have an isothermal fixed point and stay bounded.

Three air nodes: canyon air (`Uwg.Air.ucModel`, model of `UCMDef.UCModel`), indoor air (the
balance part of `Uwg.Hvac.bemCalc`, model of `Building.BEMCalc`, shared with C14) and the urban
boundary layer (`Uwg.Air.ublModel` / `nightforc`, models of `UBLDef.ublmodel` / `nightforc`).
For each node, over every linearly ordered field:

* T1 `…_fixed_point`  — every temperature the node exchanges heat with equals `T` and there is no
                         heat source ⇒ the new node temperature is exactly `T`;
* T2 `…_convex`       — exchange coefficients ≥ 0, their sum > 0, no source ⇒ the new temperature
                         lies between the smallest and the largest exchanged temperature;
* T3 `…_monotone…`    — adding sensible heat never lowers the new temperature;
* T4 `ubl_day_mean`, `night_mean` — the boundary-layer temperature is the mean of its along-wind
                         cells (night: under the hypothesis that the loop count
                         `int(charLength)//int(paralLength)` equals the number of cells and
                         `charLength = count · paralLength`; `night_partial_count` says what
                         happens otherwise);
* T5 `night_convex`   — night-time cells stay within the range of the rural profile and the old
                         cells when the wind profile is non-negative.

Hypotheses are stated explicitly (no reliance on `x / 0 = 0`): `H2 ≠ 0` / `0 < H2`,
`1 + advCoef ≠ 0`, weights ≥ 0.
-/
import UwgVerif.Model.AirNodes
import UwgVerif.Lemmas.WeightedMean
import UwgVerif.Props.C14
import Mathlib.Tactic.Positivity

namespace Uwg.C15
open Uwg.Air
variable {K : Type} [Field K] [LinearOrder K] [IsStrictOrderedRing K]

/-! ## Canyon air node -/
section canyon
variable (u : UcmIn K)

/-- Temperatures of one archetype the canyon air exchanges with: indoor air (through windows,
    ventilation, infiltration) and outer wall surface. -/
def BldTemps (T : K) (b : Bld K) : Prop := b.indoorTemp = T ∧ b.tWall = T

structure UcmNonneg : Prop where
  aeroCond : 0 ≤ u.aeroCond
  roadArea : 0 ≤ u.roadArea
  roofArea : 0 ≤ u.roofArea
  facArea : 0 ≤ u.facArea
  uExch : 0 ≤ u.uExch
  cp : 0 ≤ u.cp
  dens : 0 ≤ dens u
  densUbl : 0 ≤ densUbl u
  bldHeight : 0 ≤ u.bldHeight

structure BldNonneg (b : Bld K) : Prop where
  frac : 0 ≤ b.frac
  glz0 : 0 ≤ b.glazingRatio
  glz1 : b.glazingRatio ≤ 1
  uValue : 0 ≤ b.uValue
  vent : 0 ≤ b.vent
  nFloor : 0 ≤ b.nFloor
  infil : 0 ≤ b.infil

theorem bldH1_eq (b : Bld K) :
    bldH1 u b = b.indoorTemp * (b.frac * (wWin u b + wVent u b + wInfil u b)) +
      b.tWall * (b.frac * wWall u b) := by
  unfold bldH1 wWin wVent wInfil wWall; ring

theorem bldH2_eq (b : Bld K) :
    bldH2 u b = b.frac * (wWin u b + wVent u b + wInfil u b) + b.frac * wWall u b := by
  unfold bldH2 wWin wVent wInfil wWall; ring

theorem sumH1_iso {T : K} {bs : List (Bld K)} (h : ∀ b ∈ bs, BldTemps T b) :
    sumH1 u bs = T * sumH2 u bs := by
  induction bs with
  | nil => simp [sumH1, sumH2]
  | cons b bs ih =>
    obtain ⟨hb, hbs⟩ := List.forall_mem_cons.1 h
    simp only [sumH1, sumH2, ih hbs, bldH1_eq, bldH2_eq, hb.1, hb.2]; ring

/-- T1 (canyon). Road surface, boundary layer, and every archetype's indoor air and wall surface
    at `T`, total source term `Q = 0`, `H2 ≠ 0` ⇒ the new canyon temperature is exactly `T`. -/
theorem canyon_fixed_point (T : K) (bs : List (Bld K)) (hroad : u.tRoad = T) (hubl : u.tUbl = T)
    (hb : ∀ b ∈ bs, BldTemps T b) (hQ : ucQ u bs = 0) (hH2 : ucH2 u bs ≠ 0) :
    canTempNew u bs = T := by
  unfold canTempNew
  rw [hQ, add_zero, div_eq_iff hH2]
  unfold ucH1 ucH2
  rw [sumH1_iso u hb, hroad, hubl]; ring

theorem sumQ_zero {bs : List (Bld K)}
    (h : ∀ b ∈ bs, b.sensWaste * u.hMix = 0 ∧ aWindow u b * b.solRec * (1 - b.shgc) = 0) :
    sumQ u bs = 0 := by
  induction bs with
  | nil => rfl
  | cons b bs ih =>
    obtain ⟨⟨h1, h2⟩, hbs⟩ := List.forall_mem_cons.1 h
    rw [sumQ, ih hbs, bldQ, mul_assoc u.roofArea, h1, h2]
    simp only [mul_zero, add_zero]

/-- T1 with "no heat source" spelled out: no anthropogenic / tree sensible heat, and for every
    archetype no waste heat mixed into the canyon and no sun reflected by the windows. -/
theorem canyon_fixed_point_sources (T : K) (bs : List (Bld K)) (hroad : u.tRoad = T)
    (hubl : u.tUbl = T) (hb : ∀ b ∈ bs, BldTemps T b)
    (hsrc : u.sensAnthrop + u.treeSensHeat = 0)
    (hbsrc : ∀ b ∈ bs, b.sensWaste * u.hMix = 0 ∧ aWindow u b * b.solRec * (1 - b.shgc) = 0)
    (hH2 : ucH2 u bs ≠ 0) :
    canTempNew u bs = T := by
  apply canyon_fixed_point u T bs hroad hubl hb _ hH2
  unfold ucQ; rw [hsrc, sumQ_zero u hbsrc]; ring

theorem bld_weights_nonneg (hu : UcmNonneg u) {b : Bld K} (hb : BldNonneg b) :
    0 ≤ b.frac * (wWin u b + wVent u b + wInfil u b) ∧ 0 ≤ b.frac * wWall u b := by
  have h1 : 0 ≤ wWin u b := mul_nonneg (mul_nonneg hb.glz0 hu.facArea) hb.uValue
  have h2 : 0 ≤ wVent u b :=
    mul_nonneg (mul_nonneg (mul_nonneg (mul_nonneg hu.roofArea hb.vent) hb.nFloor) hu.cp) hu.dens
  have h3 : 0 ≤ wInfil u b :=
    mul_nonneg (mul_nonneg (div_nonneg (mul_nonneg (mul_nonneg hu.roofArea hb.infil)
      hu.bldHeight) (by norm_num)) hu.cp) hu.dens
  have h4 : 0 ≤ wWall u b :=
    mul_nonneg (mul_nonneg (sub_nonneg.mpr hb.glz1) hu.facArea) hu.aeroCond
  exact ⟨mul_nonneg hb.frac (add_nonneg (add_nonneg h1 h2) h3), mul_nonneg hb.frac h4⟩

theorem wRoad_nonneg (hu : UcmNonneg u) : 0 ≤ wRoad u := mul_nonneg hu.aeroCond hu.roadArea

theorem wUbl_nonneg (hu : UcmNonneg u) : 0 ≤ wUbl u :=
  mul_nonneg (mul_nonneg (mul_nonneg hu.roadArea hu.uExch) hu.cp) hu.densUbl

theorem ucH1_eq (bs : List (Bld K)) :
    ucH1 u bs = u.tRoad * wRoad u + u.tUbl * wUbl u + sumH1 u bs := by
  unfold ucH1 wRoad wUbl; ring

theorem sumH1_between (hu : UcmNonneg u) {lo hi : K} {bs : List (Bld K)}
    (h : ∀ b ∈ bs, BldNonneg b ∧ (lo ≤ b.indoorTemp ∧ b.indoorTemp ≤ hi) ∧
      (lo ≤ b.tWall ∧ b.tWall ≤ hi)) :
    Between lo hi (sumH1 u bs) (sumH2 u bs) := by
  induction bs with
  | nil => exact Between.zero
  | cons b bs ih =>
    obtain ⟨⟨hn, hi1, hw1⟩, hbs⟩ := List.forall_mem_cons.1 h
    obtain ⟨w1, w2⟩ := bld_weights_nonneg u hu hn
    simp only [sumH1, sumH2, bldH1_eq, bldH2_eq]
    exact ((Between.single w1 hi1).add (Between.single w2 hw1)).add (ih hbs)

theorem ucH1_between (hu : UcmNonneg u) {lo hi : K} {bs : List (Bld K)}
    (hroad : lo ≤ u.tRoad ∧ u.tRoad ≤ hi) (hubl : lo ≤ u.tUbl ∧ u.tUbl ≤ hi)
    (hb : ∀ b ∈ bs, BldNonneg b ∧ (lo ≤ b.indoorTemp ∧ b.indoorTemp ≤ hi) ∧
      (lo ≤ b.tWall ∧ b.tWall ≤ hi)) :
    Between lo hi (ucH1 u bs) (ucH2 u bs) :=
  ucH1_eq u bs ▸ ((Between.single (wRoad_nonneg u hu) hroad).add
    (Between.single (wUbl_nonneg u hu) hubl)).add (sumH1_between u hu hb)

/-- T2 (canyon). Non-negative exchange coefficients with positive sum and no source: the new
    canyon temperature lies within `[lo, hi]` whenever road, boundary layer and every archetype's
    indoor and wall temperatures do. -/
theorem canyon_convex (hu : UcmNonneg u) (lo hi : K) (bs : List (Bld K))
    (hroad : lo ≤ u.tRoad ∧ u.tRoad ≤ hi) (hubl : lo ≤ u.tUbl ∧ u.tUbl ≤ hi)
    (hb : ∀ b ∈ bs, BldNonneg b ∧ (lo ≤ b.indoorTemp ∧ b.indoorTemp ≤ hi) ∧
      (lo ≤ b.tWall ∧ b.tWall ≤ hi))
    (hQ : ucQ u bs = 0) (hH2 : 0 < ucH2 u bs) :
    lo ≤ canTempNew u bs ∧ canTempNew u bs ≤ hi := by
  unfold canTempNew
  rw [hQ, add_zero]
  exact (ucH1_between u hu hroad hubl hb).div hH2

theorem sums_anthrop (d : K) (bs : List (Bld K)) :
    sumH1 { u with sensAnthrop := d } bs = sumH1 u bs ∧
    sumH2 { u with sensAnthrop := d } bs = sumH2 u bs ∧
    sumQ { u with sensAnthrop := d } bs = sumQ u bs := by
  induction bs with
  | nil => exact ⟨rfl, rfl, rfl⟩
  | cons b bs ih => simp only [sumH1, sumH2, sumQ, ih]; exact ⟨rfl, rfl, rfl⟩

theorem canTempNew_mono {u u' : UcmIn K} {bs bs' : List (Bld K)} (h1 : ucH1 u' bs' = ucH1 u bs)
    (h2 : ucH2 u' bs' = ucH2 u bs) (hq : ucQ u bs ≤ ucQ u' bs') (hH2 : 0 < ucH2 u bs) :
    canTempNew u bs ≤ canTempNew u' bs' := by
  unfold canTempNew; rw [h1, h2]; exact wmean_mono hH2 hq

/-- T3 (canyon, street-level source). More anthropogenic sensible heat never lowers the new
    canyon temperature (`roofArea + roadArea ≥ 0`, `H2 > 0`). -/
theorem canyon_monotone_anthrop (bs : List (Bld K)) (δ : K) (hδ : 0 ≤ δ)
    (hA : 0 ≤ u.roofArea + u.roadArea) (hH2 : 0 < ucH2 u bs) :
    canTempNew u bs ≤ canTempNew { u with sensAnthrop := u.sensAnthrop + δ } bs := by
  obtain ⟨e1, e2, e3⟩ := sums_anthrop u (u.sensAnthrop + δ) bs
  refine canTempNew_mono (congrArg _ e1) (congrArg _ e2) ?_ hH2
  unfold ucQ; rw [e3]
  show _ ≤ (u.roofArea + u.roadArea) * (u.sensAnthrop + δ + u.treeSensHeat) + _
  exact add_le_add (mul_le_mul_of_nonneg_left
    (add_le_add (le_add_of_nonneg_right hδ) le_rfl) hA) le_rfl

/-- `bs'` is `bs` with (possibly) more HVAC waste heat in each archetype, everything else equal. -/
def MoreWaste : List (Bld K) → List (Bld K) → Prop
  | [], [] => True
  | b :: bs, b' :: bs' =>
    b' = { b with sensWaste := b'.sensWaste } ∧ b.sensWaste ≤ b'.sensWaste ∧ 0 ≤ b.frac ∧
      MoreWaste bs bs'
  | _, _ => False

theorem sums_moreWaste (hr : 0 ≤ u.roofArea) (hm : 0 ≤ u.hMix) :
    ∀ (bs bs' : List (Bld K)), MoreWaste bs bs' →
      sumH1 u bs' = sumH1 u bs ∧ sumH2 u bs' = sumH2 u bs ∧ sumQ u bs ≤ sumQ u bs'
  | [], [], _ => ⟨rfl, rfl, le_rfl⟩
  | b :: bs, b' :: bs', ⟨he, hle, hf, hrest⟩ => by
    obtain ⟨i1, i2, i3⟩ := sums_moreWaste hr hm bs bs' hrest
    have q1 : bldH1 u b' = bldH1 u b := by rw [he]; rfl
    have q2 : bldH2 u b' = bldH2 u b := by rw [he]; rfl
    have q3 : bldQ u b ≤ bldQ u b' := by
      rw [he]
      exact mul_le_mul_of_nonneg_left (add_le_add (mul_le_mul_of_nonneg_right
        (mul_le_mul_of_nonneg_left hle hr) hm) le_rfl) hf
    exact ⟨congrArg₂ (· + ·) q1 i1, congrArg₂ (· + ·) q2 i2, add_le_add q3 i3⟩

/-- T3 (canyon, building source). More HVAC waste heat in any archetype never lowers the new
    canyon temperature (`frac, roofArea, h_mix ≥ 0`, `H2 > 0`). -/
theorem canyon_monotone_waste (bs bs' : List (Bld K)) (h : MoreWaste bs bs')
    (hr : 0 ≤ u.roofArea) (hm : 0 ≤ u.hMix) (hH2 : 0 < ucH2 u bs) :
    canTempNew u bs ≤ canTempNew u bs' := by
  obtain ⟨i1, i2, i3⟩ := sums_moreWaste u hr hm bs bs' h
  exact canTempNew_mono (by unfold ucH1; rw [i1]) (by unfold ucH2; rw [i2]) (add_le_add le_rfl i3) hH2

/-- A normal return of `ucModel` yields `ucCore`, with `H2 ≠ 0` and the new canyon temperature
    inside 200..350 K (the model's image of the final check of `UCModel`). -/
theorem ucModel_ok (bs : List (Bld K)) (o : UcmOut K) (h : ucModel u bs = .ok o) :
    o = ucCore u bs ∧ ucH2 u bs ≠ 0 ∧ 200 ≤ o.canTemp ∧ o.canTemp ≤ 350 := by
  unfold ucModel ucGuards at h
  split_ifs at h with g1 g2 g3
  rw [not_or] at g3
  cases h
  exact ⟨rfl, g2, not_lt.mp g3.2, not_lt.mp g3.1⟩

end canyon

/-! ## Indoor air node (`Building.BEMCalc`, model shared with C14) -/
section indoor
open Uwg.Hvac
variable (phi : K → K → K → K) (i : BemIn K)

theorem h1_eq : h1 i = i.tWall * (wallArea i * zacWall) + i.tMass * (massArea i * zacMass) +
    i.tCeil * zacCeil i + i.canTemp * (winArea i * i.uValue) +
    i.canTemp * (volInfil i * Hvac.dens i * i.cp) + i.canTemp * (volVent i * Hvac.dens i * i.cp) := by
  unfold h1; ring

/-- T1 (indoor). Wall, mass, ceiling and canyon air at `T`, no internal or solar gain, and `T`
    between the heating and cooling set-points (so neither system has a demand), `H2 > 0` ⇒ the
    indoor air ends the step exactly at `T`. -/
theorem indoor_fixed_point (T : K) (hw : i.tWall = T) (hm : i.tMass = T) (hc : i.tCeil = T)
    (hcan : i.canTemp = T) (hint : intHeat i = 0) (hsol : winTrans i = 0)
    (hT1 : tHeat i ≤ T) (hT2 : T ≤ tCool i) (hH2 : 0 < h2 i) :
    (bemCore phi i).indoorTemp = T := by
  -- the load at any `T'` is `H2·(T − T')`: zero at `T`, ≤ 0 at `tCool`, ≥ 0 at `tHeat`
  have e : ∀ T', loadAt i T' = h2 i * (T - T') := fun T' => by
    rw [C14.loadAt_eq, h1_eq, hw, hm, hc, hcan, hint, hsol]; unfold h2; ring
  have sc : sensCool0 i = 0 :=
    max_eq_right ((e _).le.trans (mul_nonpos_of_nonneg_of_nonpos hH2.le (sub_nonpos.2 hT2)))
  have sh : sensHeat0 i = 0 :=
    max_eq_right (neg_nonpos.2 ((mul_nonneg hH2.le (sub_nonneg.2 hT1)).trans (e _).ge))
  have hb : branch i = .idle := by unfold branch; rw [sc, sh]; simp
  rw [C14.indoorTempNew_eq phi i T hH2.ne', e]
  simp only [hvac, hb, sc, sub_self, mul_zero, zero_div, add_zero]

theorem h1_between (ha : C14.Admissible i) {lo hi : K}
    (hw : lo ≤ i.tWall ∧ i.tWall ≤ hi) (hm : lo ≤ i.tMass ∧ i.tMass ≤ hi)
    (hc : lo ≤ i.tCeil ∧ i.tCeil ≤ hi) (hcan : lo ≤ i.canTemp ∧ i.canTemp ≤ hi) :
    Between lo hi (h1 i) (h2 i) := by
  obtain ⟨w1, w2, w3, w4, w5, w6⟩ := C14.weights_nonneg i ha
  rw [h1_eq]
  exact (((((Between.single w1 hw).add (.single w2.le hm)).add (.single w3.le hc)).add
    (.single w4 hcan)).add (.single w5 hcan)).add (.single w6 hcan)

/-- T2 (indoor). Physically admissible coefficients and no net source in the balance
    (`qTot = 0`: no gains, no system acting): the new indoor temperature lies within `[lo, hi]`
    whenever wall, mass, ceiling and canyon temperatures do. -/
theorem indoor_convex (lo hi : K)
    (hv : 0 ≤ i.verToHor) (hd : 0 < i.bldDensity) (hg0 : 0 ≤ i.glazingRatio)
    (hg1 : i.glazingRatio ≤ 1) (hu : 0 ≤ i.uValue) (hi' : 0 ≤ i.infil) (hve : 0 ≤ i.vent)
    (hb : 0 ≤ i.bldHeight) (hdens : 0 ≤ Hvac.dens i) (hcp : 0 ≤ i.cp)
    (hw : lo ≤ i.tWall ∧ i.tWall ≤ hi) (hm : lo ≤ i.tMass ∧ i.tMass ≤ hi)
    (hc : lo ≤ i.tCeil ∧ i.tCeil ≤ hi) (hcan : lo ≤ i.canTemp ∧ i.canTemp ≤ hi)
    (hq : qTot i = 0) :
    lo ≤ (bemCore phi i).indoorTemp ∧ (bemCore phi i).indoorTemp ≤ hi := by
  show lo ≤ indoorTempNew i ∧ indoorTempNew i ≤ hi
  unfold indoorTempNew
  rw [hq, add_zero]
  exact (h1_between i ⟨hv, hd, hg0, hg1, hu, hi', hve, hb, hdens, hcp⟩ hw hm hc hcan).div
    (C14.h2_pos i hv hd hg0 hg1 hu hi' hve hb hdens hcp)

/-- T3 (indoor). The new indoor temperature is `(H1 + Q) / H2` with `Q` the net sensible source
    (gains + heating − cooling) and, for `H2 > 0`, non-decreasing in `Q`. -/
theorem indoor_monotone_in_source (hH2 : 0 < h2 i) :
    (bemCore phi i).indoorTemp = (h1 i + qTot i) / h2 i ∧
    ∀ q q' : K, q ≤ q' → (h1 i + q) / h2 i ≤ (h1 i + q') / h2 i :=
  ⟨rfl, fun _ _ h => wmean_mono hH2 h⟩

end indoor

/-! ## Urban boundary layer -/
section ubl
variable (rpow : K → K → K) (b : UblIn K)

theorem listSum_eq_sum (l : List K) : listSum l = l.sum := by
  induction l with
  | nil => rfl
  | cons x xs ih => exact congrArg (x + ·) ih

/-! Day and night updates are one relaxation step `(s + a + c) / (1 + w)`: the old value `c` with
weight 1, an advected term `a` of weight `w`, a source `s`. `ublDay` has `a = w · eqTemp`; in
`nightforc` the first cell has `a = advCoef1`, `w = advCoef2`, every later cell `a = w · prev`. -/

theorem relax_iso {T w : K} (hw : 1 + w ≠ 0) : (0 + w * T + T) / (1 + w) = T := by
  rw [div_eq_iff hw]; ring

theorem relax_between {lo hi a w c : K} (hB : Between lo hi a w) (hw : 0 ≤ w)
    (hc : lo ≤ c ∧ c ≤ hi) : lo ≤ (0 + a + c) / (1 + w) ∧ (0 + a + c) / (1 + w) ≤ hi := by
  rw [zero_add, add_comm 1]
  exact (hB.add (.one hc)).div (add_pos_of_nonneg_of_pos hw one_pos)

theorem relax_mono {s s' a a' c w : K} (hw : 0 ≤ 1 + w) (hs : s ≤ s') (ha : a ≤ a') :
    (s + a + c) / (1 + w) ≤ (s' + a' + c) / (1 + w) :=
  div_le_div_of_nonneg_right (add_le_add (add_le_add hs ha) le_rfl) hw

/-- T1 (boundary layer, day). Rural profile value at the reference height and old
    boundary-layer temperature both `T`, no heat from the canyon (`Q_ubl = 0`),
    `1 + advCoef ≠ 0` ⇒ the new temperature and every cell are exactly `T`. -/
theorem ubl_day_fixed_point (T : K) (he : eqTemp b = T) (hu : b.ublTemp = T) (hq : b.qUbl = 0)
    (hden : 1 + advCoefDay rpow b ≠ 0) (hday : isDay b) :
    (ublCore rpow b).ublTemp = T ∧ ∀ x ∈ (ublCore rpow b).cells, x = T := by
  have e : ublDay rpow b = T := by
    unfold ublDay csurfDay
    rw [hq, he, hu, zero_mul, zero_div]
    exact relax_iso hden
  unfold ublCore; rw [if_pos hday, e]
  exact ⟨rfl, fun x hx => by simp at hx; exact hx.2⟩

/-- The daytime advection coefficient is non-negative for non-negative geometry, wind profile
    value and minimum wind — whatever the value of `x ** (1/3)`: in the convective branch the
    circulation velocity is at least `max(wind, windMin) ≥ windMin ≥ 0`. -/
theorem advCoefDay_nonneg (ho : 0 ≤ b.orthLength) (hw : 0 ≤ eqWind b) (hdt : 0 ≤ b.dt)
    (hA : 0 < b.urbArea) (hp : 0 ≤ b.perimeter) (hmin : 0 ≤ b.windMin) :
    0 ≤ advCoefDay rpow b := by
  unfold advCoefDay
  split_ifs with hf
  · exact mul_nonneg (div_nonneg (mul_nonneg (mul_nonneg ho hw) hdt) hA.le) (by positivity)
  · have hu : 0 ≤ uCirc rpow b := hmin.trans ((le_max_right _ _).trans (not_lt.mp hf))
    exact mul_nonneg (div_nonneg (mul_nonneg (mul_nonneg hp hu) hdt) hA.le) (by positivity)

/-- T2 (boundary layer, day). `advCoef ≥ 0`, no heat from the canyon ⇒ the new temperature lies
    between the rural reference value and the old boundary-layer temperature. -/
theorem ubl_day_convex (lo hi : K) (hadv : 0 ≤ advCoefDay rpow b) (hq : b.qUbl = 0)
    (he : lo ≤ eqTemp b ∧ eqTemp b ≤ hi) (hu : lo ≤ b.ublTemp ∧ b.ublTemp ≤ hi) :
    lo ≤ ublDay rpow b ∧ ublDay rpow b ≤ hi := by
  unfold ublDay csurfDay
  rw [hq, zero_mul, zero_div]
  exact relax_between (.single' hadv he) hadv hu

/-- T3 (boundary layer, day). More sensible heat from the canyon never lowers the new
    temperature (`dt ≥ 0`, `h·ρ·cp > 0`, `1 + advCoef > 0`). -/
theorem ubl_day_monotone_in_source (δ : K) (hδ : 0 ≤ δ) (hdt : 0 ≤ b.dt)
    (hden : 0 < b.dayBLHeight * refDens b * b.cp) (hadv : 0 < 1 + advCoefDay rpow b) :
    ublDay rpow b ≤ ublDay rpow { b with qUbl := b.qUbl + δ } := by
  have hs : csurfDay b ≤ csurfDay { b with qUbl := b.qUbl + δ } :=
    div_le_div_of_nonneg_right
      (mul_le_mul_of_nonneg_right (le_add_of_nonneg_right hδ) hdt) hden.le
  exact relax_mono hadv.le hs le_rfl

/-- T4 (day). In the daytime branch every cell is set to the new temperature, so the
    boundary-layer temperature is the mean of its cells. -/
theorem ubl_day_mean (hday : isDay b) :
    listSum (ublCore rpow b).cells
      = ((ublCore rpow b).cells.length : K) * (ublCore rpow b).ublTemp := by
  unfold ublCore; rw [if_pos hday]
  simp only [listSum_eq_sum, List.map_const', List.sum_replicate, List.length_replicate,
    nsmul_eq_mul]

/-! ### night -/

/-- The cell recursion of `nightforc` with cell 0 included: `a` is the advected term of the head
    cell, `advCoef1` for cell 0 and `advCoef2 ·` the updated upwind neighbour from then on. -/
def cellsFrom (csurf a2 : K) : K → List K → List K
  | _, [] => []
  | a, c :: cs =>
    (csurf + a + c) / (1 + a2) :: cellsFrom csurf a2 (a2 * ((csurf + a + c) / (1 + a2))) cs

theorem nightCells_eq (csurf a2 : K) : ∀ (l : List K) (prev : K),
    nightCells csurf a2 prev l = cellsFrom csurf a2 (a2 * prev) l
  | [], _ => rfl
  | c :: cs, prev => by rw [nightCells, cellsFrom, nightCells_eq csurf a2 cs]

theorem cellsFrom_length (csurf a2 : K) : ∀ (l : List K) (a : K),
    (cellsFrom csurf a2 a l).length = l.length
  | [], _ => rfl
  | c :: cs, a => by simp only [cellsFrom, List.length_cons, cellsFrom_length csurf a2 cs]

theorem listSum_append (l m : List K) : listSum (l ++ m) = listSum l + listSum m := by
  simp only [listSum_eq_sum, List.sum_append]

theorem listSum_between {lo hi : K} {l : List K} (h : ∀ x ∈ l, lo ≤ x ∧ x ≤ hi) :
    Between lo hi (listSum l) (l.length : K) := by
  rw [listSum_eq_sum, Between, ← nsmul_eq_mul', ← nsmul_eq_mul']
  exact ⟨List.card_nsmul_le_sum _ _ fun x hx => (h x hx).1,
    List.sum_le_card_nsmul _ _ fun x hx => (h x hx).2⟩

/-- `nightforc` returns: the first `n - 1 + 1` cells (a loop count `0` acts as `1`) are updated by
    `cellsFrom` starting from `advCoef1`. -/
theorem nightforc_some {cells : List K} {n : Nat} {csurf a1 a2 pL cL t : K} {cs : List K}
    (h : nightforc cells n csurf a1 a2 pL cL = some (t, cs)) :
    n - 1 + 1 ≤ cells.length ∧
    t = listSum (cellsFrom csurf a2 a1 (cells.take (n - 1 + 1))) / cL * pL ∧
    cs = cellsFrom csurf a2 a1 (cells.take (n - 1 + 1)) ++ cells.drop (n - 1 + 1) := by
  cases cells with
  | nil => simp [nightforc] at h
  | cons c0 rest =>
    unfold nightforc at h
    simp only at h
    split_ifs at h with hg
    simp only [Option.some.injEq, Prod.mk.injEq] at h
    rw [List.take_succ_cons, List.drop_succ_cons, cellsFrom, ← nightCells_eq]
    exact ⟨Nat.succ_le_succ (not_lt.mp hg), h.1.symm, h.2.symm⟩

theorem nightforc_length {cells : List K} {n : Nat} {csurf a1 a2 pL cL t : K} {cs : List K}
    (h : nightforc cells n csurf a1 a2 pL cL = some (t, cs)) : cs.length = cells.length := by
  obtain ⟨hle, _, rfl⟩ := nightforc_some h
  simp only [List.length_append, cellsFrom_length, List.length_take, List.length_drop]
  omega

/-- T4 (night). When the loop count equals the number of cells and
    `charLength = count · paralLength` (both true for objects built by `UBLDef.__init__` with an
    integer `charLength` up to 62 498 m: proved from the constructor's arithmetic as
    `night_mean_of_constructor` in `Props/C15Inputs.lean`), the returned boundary-layer temperature
    is the arithmetic mean of the returned cells, and no cell is lost. -/
theorem night_mean (cells : List K) (n : Nat) (csurf a1 a2 pL cL t : K) (cs : List K)
    (h : nightforc cells n csurf a1 a2 pL cL = some (t, cs))
    (hn : n = cells.length) (hL : cL = (n : K) * pL) (hp : pL ≠ 0) :
    cs.length = cells.length ∧ t = listSum cs / (n : K) := by
  obtain ⟨hle, ht, hcs⟩ := nightforc_some h
  have hn1 : n - 1 + 1 = cells.length := by omega
  rw [hn1, List.take_length, List.drop_length, List.append_nil] at hcs
  rw [hn1, List.take_length, ← hcs] at ht
  refine ⟨nightforc_length h, ?_⟩
  rw [ht, hL, div_mul_eq_mul_div, mul_div_mul_right _ _ hp]

theorem night_mean_between {lo hi : K} {cells : List K} {n : Nat} {csurf a1 a2 pL cL t : K}
    {cs : List K} (h : nightforc cells n csurf a1 a2 pL cL = some (t, cs))
    (hall : ∀ y ∈ cs, lo ≤ y ∧ y ≤ hi)
    (hn : n = cells.length) (hL : cL = (n : K) * pL) (hp : pL ≠ 0) : lo ≤ t ∧ t ≤ hi := by
  obtain ⟨hlen, hm⟩ := night_mean cells n csurf a1 a2 pL cL t cs h hn hL hp
  obtain ⟨hle, _⟩ := nightforc_some h
  rw [hm, hn, ← hlen]
  exact (listSum_between hall).div (Nat.cast_pos.2 (by omega))

theorem cellsFrom_iso {T a2 : K} (ha : 1 + a2 ≠ 0) : ∀ (l : List K), (∀ x ∈ l, x = T) →
    cellsFrom 0 a2 (a2 * T) l = l
  | [], _ => rfl
  | c :: cs, h => by
    obtain ⟨hc, hcs⟩ := List.forall_mem_cons.1 h
    rw [hc, cellsFrom, relax_iso ha, cellsFrom_iso ha cs hcs]

/-- T1 (boundary layer, night). Every cell at `T`, the wind-weighted rural profile at `T`
    (`advCoef1 = advCoef2 · T`, see `advCoef1_iso`), no heat from the canyon, `1 + advCoef2 ≠ 0`
    ⇒ no cell changes (for every loop count), and under the hypotheses of `night_mean` the
    boundary-layer temperature is exactly `T`. -/
theorem night_fixed_point (T : K) (cells : List K) (n : Nat) (a1 a2 pL cL t : K) (cs : List K)
    (h : nightforc cells n 0 a1 a2 pL cL = some (t, cs))
    (hc : ∀ x ∈ cells, x = T) (ha1 : a1 = a2 * T) (ha : 1 + a2 ≠ 0) :
    cs = cells ∧ (n = cells.length → cL = (n : K) * pL → pL ≠ 0 → t = T) := by
  obtain ⟨_, _, hcs⟩ := nightforc_some h
  have hcells : cs = cells := by
    rw [hcs, ha1, cellsFrom_iso ha _ fun x hx => hc x (List.mem_of_mem_take hx),
      List.take_append_drop]
  refine ⟨hcells, fun hn hL hp => ?_⟩
  have := night_mean_between (lo := T) (hi := T) h
    (fun x hx => (hc x (hcells ▸ hx)).symm ▸ ⟨le_rfl, le_rfl⟩) hn hL hp
  exact le_antisymm this.2 this.1

/-- The invariant is the shape of `night_convex`'s hypothesis on `advCoef1`: the advected term is
    a mean of weight `a2` of values in `[lo, hi]`; an updated cell hands on `a2 ·` itself. -/
theorem cellsFrom_bounds {lo hi a2 : K} (ha : 0 ≤ a2) : ∀ (l : List K) (a : K),
    Between lo hi a a2 → (∀ x ∈ l, lo ≤ x ∧ x ≤ hi) →
    ∀ y ∈ cellsFrom 0 a2 a l, lo ≤ y ∧ y ≤ hi
  | [], _, _, _ => by simp [cellsFrom]
  | c :: cs, a, hB, hl => by
    obtain ⟨hc, hcs⟩ := List.forall_mem_cons.1 hl
    have hn := relax_between hB ha hc
    exact List.forall_mem_cons.2 ⟨hn, cellsFrom_bounds ha cs _ (.single' ha hn) hcs⟩

/-- T5 (boundary layer, night). `advCoef2 ≥ 0`, wind-weighted rural profile within `[lo, hi]`
    (`lo·advCoef2 ≤ advCoef1 ≤ hi·advCoef2`, see `advCoef1_bounds`), old cells within `[lo, hi]`,
    no heat from the canyon ⇒ every returned cell lies in `[lo, hi]`, and so does the
    boundary-layer temperature under the hypotheses of `night_mean`. -/
theorem night_convex (lo hi : K) (cells : List K) (n : Nat) (a1 a2 pL cL t : K) (cs : List K)
    (h : nightforc cells n 0 a1 a2 pL cL = some (t, cs))
    (ha : 0 ≤ a2) (hlo : lo * a2 ≤ a1) (hhi : a1 ≤ hi * a2)
    (hc : ∀ x ∈ cells, lo ≤ x ∧ x ≤ hi) :
    (∀ y ∈ cs, lo ≤ y ∧ y ≤ hi) ∧
    (n = cells.length → cL = (n : K) * pL → pL ≠ 0 → lo ≤ t ∧ t ≤ hi) := by
  have hall : ∀ y ∈ cs, lo ≤ y ∧ y ≤ hi := by
    obtain ⟨_, _, rfl⟩ := nightforc_some h
    intro y hy
    rcases List.mem_append.1 hy with hy | hy
    · exact cellsFrom_bounds ha _ _ ⟨hlo, hhi⟩ (fun x hx => hc x (List.mem_of_mem_take hx)) y hy
    · exact hc y (List.mem_of_mem_drop hy)
  exact ⟨hall, night_mean_between h hall⟩

theorem cellsFrom_mono {a2 s s' : K} (ha : 0 ≤ a2) (hs : s ≤ s') :
    ∀ (l : List K) (a a' : K), a ≤ a' →
    List.Forall₂ (· ≤ ·) (cellsFrom s a2 a l) (cellsFrom s' a2 a' l)
  | [], _, _, _ => List.Forall₂.nil
  | c :: cs, a, a', hp => by
    have e : (s + a + c) / (1 + a2) ≤ (s' + a' + c) / (1 + a2) :=
      relax_mono (add_nonneg zero_le_one ha) hs hp
    exact List.Forall₂.cons e (cellsFrom_mono ha hs cs _ _ (mul_le_mul_of_nonneg_left e ha))

/-- T3 (boundary layer, night). More sensible heat from the canyon (`Csurf ≤ Csurf'`,
    `advCoef2 ≥ 0`) lowers no cell, and does not lower the boundary-layer temperature when
    `charLength > 0` and `paralLength ≥ 0`. -/
theorem night_monotone_in_source (cells : List K) (n : Nat) (s s' a1 a2 pL cL t t' : K)
    (cs cs' : List K) (ha : 0 ≤ a2) (hs : s ≤ s')
    (h : nightforc cells n s a1 a2 pL cL = some (t, cs))
    (h' : nightforc cells n s' a1 a2 pL cL = some (t', cs')) :
    List.Forall₂ (· ≤ ·) cs cs' ∧ (0 < cL → 0 ≤ pL → t ≤ t') := by
  obtain ⟨_, rfl, rfl⟩ := nightforc_some h
  obtain ⟨_, rfl, rfl⟩ := nightforc_some h'
  have hm := cellsFrom_mono ha hs (cells.take (n - 1 + 1)) a1 a1 le_rfl
  refine ⟨List.rel_append hm (List.forall₂_refl _), fun hcL hpL => ?_⟩
  rw [listSum_eq_sum, listSum_eq_sum]
  exact mul_le_mul_of_nonneg_right (div_le_div_of_nonneg_right hm.sum_le_sum hcL.le) hpL

/-- What the loop-count hypothesis of `night_mean` protects against: with a loop count `n`
    smaller than the number of cells, the cells from index `n` on are returned unchanged (nor are
    they part of the sum: `nightforc_some`); a count larger than the number of cells is an
    IndexError (`none`). -/
theorem night_partial_count (cells : List K) (n : Nat) (csurf a1 a2 pL cL : K) :
    (cells.length < n → nightforc cells n csurf a1 a2 pL cL = none) ∧
    (∀ t cs, 1 ≤ n → nightforc cells n csurf a1 a2 pL cL = some (t, cs) →
      cs.length = cells.length ∧ cs.drop n = cells.drop n) := by
  constructor
  · intro hlt
    match cells, hlt with
    | [], _ => rfl
    | c0 :: rest, hlt =>
      unfold nightforc; simp only
      rw [if_pos]; simp only [List.length_cons] at hlt; omega
  · intro t cs hn h
    refine ⟨nightforc_length h, ?_⟩
    obtain ⟨hle, _, rfl⟩ := nightforc_some h
    rw [Nat.sub_add_cancel hn] at hle ⊢
    -- the `n` updated cells stand in front of the untouched ones
    rw [List.drop_left']
    rw [cellsFrom_length, List.length_take, min_eq_left hle]

/-! ### the rural-profile integrals of `nightforc` -/

theorem dot3_iso {T : K} : ∀ (n : Nat) (xs ys zs : List K), n ≤ ys.length →
    (∀ y ∈ ys.take n, y = T) → dot3 n xs ys zs = T * dot2 n xs zs
  | 0, _, _, _, _, _ => by simp [dot3, dot2]
  | n + 1, [], _, _, _, _ => by simp [dot3, dot2]
  | n + 1, _ :: _, [], _, hn, _ => absurd hn (by simp)
  | n + 1, _ :: _, _ :: _, [], _, _ => by simp [dot3, dot2]
  | n + 1, x :: xs, y :: ys, z :: zs, hn, hy => by
    obtain ⟨hy0, hys⟩ := List.forall_mem_cons.1 hy
    rw [dot3, dot2, hy0, dot3_iso n xs ys zs (Nat.le_of_succ_le_succ hn) hys]
    ring

/-- Rural potential temperature equal to `T` on every level up to the night boundary-layer
    height (`tempProf[iz] = T` for `iz < nzfor`) ⇒ `advCoef1 = advCoef2 · T`. -/
theorem advCoef1_iso (T : K) (hwf : b.rsm.nzfor ≤ b.rsm.tempProf.length)
    (h : ∀ y ∈ b.rsm.tempProf.take b.rsm.nzfor, y = T) :
    advCoef1 b = advCoef2 b * T := by
  unfold advCoef1 advCoef2 intAdv1 intAdv2
  rw [dot3_iso _ _ _ _ hwf h]; ring

theorem dot3_between {lo hi : K} : ∀ (n : Nat) (xs ys zs : List K), n ≤ ys.length →
    (∀ x ∈ xs, 0 ≤ x) → (∀ z ∈ zs, 0 ≤ z) → (∀ y ∈ ys.take n, lo ≤ y ∧ y ≤ hi) →
    0 ≤ dot2 n xs zs ∧ Between lo hi (dot3 n xs ys zs) (dot2 n xs zs)
  | 0, _, _, _, _, _, _, _ => by simp only [dot3, dot2]; exact ⟨le_rfl, .zero⟩
  | n + 1, [], _, _, _, _, _, _ => by simp only [dot3, dot2]; exact ⟨le_rfl, .zero⟩
  | n + 1, _ :: _, [], _, hn, _, _, _ => absurd hn (by simp)
  | n + 1, _ :: _, _ :: _, [], _, _, _, _ => by simp only [dot3, dot2]; exact ⟨le_rfl, .zero⟩
  | n + 1, x :: xs, y :: ys, z :: zs, hn, hx, hz, hy => by
    obtain ⟨hx0, hxs⟩ := List.forall_mem_cons.1 hx
    obtain ⟨hz0, hzs⟩ := List.forall_mem_cons.1 hz
    obtain ⟨hy0, hys⟩ := List.forall_mem_cons.1 hy
    have hxz : 0 ≤ x * z := mul_nonneg hx0 hz0
    obtain ⟨i0, ib⟩ := dot3_between n xs ys zs (Nat.le_of_succ_le_succ hn) hxs hzs hys
    rw [dot3, dot2, mul_right_comm]
    exact ⟨add_nonneg hxz i0, (Between.single' hxz hy0).add ib⟩

/-- Non-negative wind profile, layer thicknesses and `dt`, positive `paralLength` and `h_UBL`,
    and rural temperatures within `[lo, hi]` up to the night boundary-layer height ⇒ the
    hypotheses of `night_convex` on the advection coefficients. -/
theorem advCoef1_bounds (lo hi : K) (hwf : b.rsm.nzfor ≤ b.rsm.tempProf.length)
    (hw : ∀ x ∈ b.rsm.windProf, 0 ≤ x) (hz : ∀ z ∈ b.rsm.dz, 0 ≤ z)
    (hT : ∀ y ∈ b.rsm.tempProf.take b.rsm.nzfor, lo ≤ y ∧ y ≤ hi)
    (hdt : 0 ≤ b.dt) (hp : 0 < b.paralLength) (hh : 0 < b.nightBLHeight) :
    0 ≤ advCoef2 b ∧ lo * advCoef2 b ≤ advCoef1 b ∧ advCoef1 b ≤ hi * advCoef2 b := by
  have hc : 0 ≤ 14 / 10 * b.dt / b.paralLength / b.nightBLHeight :=
    div_nonneg (div_nonneg (mul_nonneg (by norm_num) hdt) hp.le) hh.le
  obtain ⟨e0, e⟩ := dot3_between _ _ _ _ hwf hw hz hT
  exact ⟨mul_nonneg hc e0, e.smul hc⟩

/-- A normal return of `ublModel` yields `ublCore`, on a well-formed profile. -/
theorem ublModel_ok (o : UblOut K) (h : ublModel rpow b = .ok o) :
    o = ublCore rpow b ∧ b.rsm.wf := by
  unfold ublModel at h
  split at h
  · simp at h
  · rename_i hg
    simp only [Except.ok.injEq] at h
    refine ⟨h.symm, ?_⟩
    unfold ublGuards at hg
    by_contra hwf
    rw [if_pos hwf] at hg
    simp at hg

end ubl

/-! ## Non-vacuity: concrete states satisfying the hypotheses (kernel-evaluated over ℚ) -/
section examples

def exU : UcmIn ℚ :=
  { pres := 101325, forcHum := 1/100, cp := 1004, tUbl := 300, canTemp := 299, canHum := 1/100,
    tRoad := 300, aeroCond := 10, roadArea := 400, roofArea := 400, facArea := 640, uExch := 1/10,
    sensAnthrop := 0, treeSensHeat := 0, bldHeight := 10, hMix := 1, bldDensity := 1/2,
    verToHor := 4/5, qRoof0 := 0 }

def exB (T : ℚ) (fr : ℚ) : Bld ℚ :=
  { frac := fr, indoorTemp := T, tWall := T, glazingRatio := 2/5, uValue := 3, vent := 1/1000,
    nFloor := 3, infil := 1/2, sensWaste := 0, solRec := 0, shgc := 1/2, tRoof := 310,
    roofSens := 20, flArea := 1000, elecTotal := 10, gasTotal := 2 }

/-- isothermal, source-free canyon: hypotheses of T1/T2 hold, the call returns, result = 300 K -/
example : UcmNonneg exU ∧ (∀ b ∈ [exB 300 (2/5), exB 300 (3/5)], BldNonneg b ∧ BldTemps 300 b) := by
  refine ⟨by constructor <;> decide +kernel, ?_⟩
  intro b hb
  simp only [List.mem_cons, List.not_mem_nil, or_false] at hb
  rcases hb with rfl | rfl <;>
    exact ⟨by constructor <;> decide +kernel, by constructor <;> rfl⟩

example : ucQ exU [exB 300 (2/5), exB 300 (3/5)] = 0 ∧ 0 < ucH2 exU [exB 300 (2/5), exB 300 (3/5)] ∧
    ucGuards exU [exB 300 (2/5), exB 300 (3/5)] = none ∧
    canTempNew exU [exB 300 (2/5), exB 300 (3/5)] = 300 := by decide +kernel

/-- non-isothermal, with a source: result strictly inside, then raised by the source -/
example : let bs := [exB 296 (2/5), exB 304 (3/5)]
    296 < canTempNew exU bs ∧ canTempNew exU bs < 304 ∧
    canTempNew exU bs < canTempNew { exU with sensAnthrop := exU.sensAnthrop + 20 } bs := by
  decide +kernel

example : MoreWaste [exB 296 (2/5), exB 304 (3/5)]
    [{ exB 296 (2/5) with sensWaste := 50 }, exB 304 (3/5)] :=
  ⟨rfl, by decide +kernel, by decide +kernel, rfl, by decide +kernel, by decide +kernel, trivial⟩

/-- indoor node: `C14.exIdle` is an isothermal room at 295 K between the set-points -/
example : Hvac.intHeat C14.exIdle = 0 ∧ Hvac.winTrans C14.exIdle = 0 ∧
    Hvac.tHeat C14.exIdle ≤ 295 ∧ 295 ≤ Hvac.tCool C14.exIdle ∧ 0 < Hvac.h2 C14.exIdle ∧
    Hvac.qTot C14.exIdle = 0 ∧ 0 ≤ Hvac.dens C14.exIdle ∧
    (Hvac.bemCore (fun _ _ _ => 0) C14.exIdle).indoorTemp = 295 := by decide +kernel

def exRsm : Rsm ℚ :=
  { nzref := 3, nzfor := 2, densityProfC := [12/10, 119/100, 118/100, 117/100],
    dz := [4, 6, 10, 20], z := [2, 7, 15, 30], tempProf := [300, 300, 300, 299],
    windProf := [2, 3, 4, 5] }

def exUbl : UblIn ℚ :=
  { sensHeat := 80, qUbl := 0, ruralSens := 50, cp := 1004, circCoeff := 12/10, g := 981/100,
    dayThreshold := 150, windMin := 1, wind := 6, dir := 500, dif := 100, secDay := 36000,
    dt := 300, dayBLHeight := 1000, nightBLHeight := 80, orthLength := 1000, urbArea := 1000000,
    perimeter := 4000, paralLength := 250, charLength := 1000, ublTemp := 300,
    cells := [300, 300, 300, 300], count := loopCount 1000 250, rsm := exRsm }

/-- the stub used in the correspondence runs (`a ** b := a·b + 1`) as a sample interpretation -/
def exPow : ℚ → ℚ → ℚ := fun a c => a * c + 1

/-- day, forced branch, isothermal and source-free: hypotheses of the day theorems hold -/
example : isDay exUbl ∧ forced exPow exUbl ∧ exUbl.rsm.wf ∧ eqTemp exUbl = 300 ∧
    0 ≤ advCoefDay exPow exUbl ∧ 0 < exUbl.dayBLHeight * refDens exUbl * exUbl.cp ∧
    ublGuards exPow exUbl = none ∧ (ublCore exPow exUbl).ublTemp = 300 := by decide +kernel

/-- day, convective branch (calm air, strong urban excess heat) -/
example : let c := { exUbl with wind := 1/2, sensHeat := 400 }
    isDay c ∧ ¬ forced exPow c ∧ 0 ≤ advCoefDay exPow c ∧ ublGuards exPow c = none := by
  decide +kernel

/-- night: loop count = number of cells = 4, `charLength = 4 · paralLength`; isothermal profile
    up to `nzfor`, so `advCoef1 = advCoef2 · 300`; the call returns and nothing moves -/
example : let c := { exUbl with dir := 0, dif := 0 }
    ¬ isDay c ∧ c.count = some 4 ∧ c.charLength = (4 : ℚ) * c.paralLength ∧
    0 ≤ advCoef2 c ∧ advCoef1 c = advCoef2 c * 300 ∧ ublGuards exPow c = none ∧
    (ublCore exPow c).ublTemp = 300 ∧ (ublCore exPow c).cells = [300, 300, 300, 300] := by
  decide +kernel

/-- night with heat from the canyon and a non-uniform state: the mean statement is non-trivial -/
example : let c := { exUbl with dir := 0, dif := 0, qUbl := 40, cells := [299, 300, 301, 302] }
    ublGuards exPow c = none ∧
    (ublCore exPow c).ublTemp = listSum (ublCore exPow c).cells / 4 ∧
    (ublCore exPow c).cells ≠ c.cells := by decide +kernel

end examples

end Uwg.C15
