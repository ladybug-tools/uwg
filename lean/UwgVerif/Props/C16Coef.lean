/-
C16, second part — the inputs `RSMDef.vdm` hands to `RSMDef.diffusion_equation` are admissible.

`Props/C16.lean` proves the maximum principle of `diffusion_equation` for *admissible* inputs
(`Admissible`: `cd ≥ 0`, positive densities and spacings). This file links those hypotheses to the
code that produces the inputs: `Rsm.diffusionCoefficient` (model of `RSMDef.diffusion_coefficient`
with `dissipation_bougeault` and `length_bougeault`), `Rsm.vdmProfiles` / `Rsm.vdmPre` / `Rsm.vdm`
(model of `RSMDef.vdm`), `Rsm.mesoGrid` (grid part of `RSMDef.__init__`); all in
`Model/RsmCoef.lean`. The results of `Props/C16.lean` are then stated for a whole `vdm` step.

All theorems are about calls that *return* (`= .ok …`): the model mirrors Python's exceptions, and
e.g. a rural heat flux of exactly 0 makes `diffusion_coefficient` raise ZeroDivisionError.
Hypotheses on the function symbols are explicit (`sqrt ≥ 0` on `[0, ∞)`, `rpow` positive for
positive base and exponent) and are discharged for the real functions in the `_real` versions;
the rational stand-ins of the correspondence driver satisfy them too.
-/
import UwgVerif.Props.C16
import UwgVerif.Lemmas.RsmCoef
import UwgVerif.Model.SymbolsReal

namespace Uwg.C16
open Uwg.Rsm
variable {K : Type} [Field K] [LinearOrder K] [IsStrictOrderedRing K]

/-! ### `diffusion_coefficient` -/

/-- Whenever `diffusion_coefficient` returns, the TKE profile it hands to `dissipation_bougeault`
    has `nz` entries and every entry is at least 0.01 (both stability branches). No hypotheses. -/
theorem te_pos (sym : Sym K) (P : Param K) (rho z0 disp tempRur heatRur uref : K) (z dz th : List K)
    (nz : Nat) (out : CoefOut K)
    (h : diffusionCoefficient sym P rho z dz z0 disp tempRur heatRur nz uref th = .ok out) :
    out.te.length = nz ∧ ∀ x ∈ out.te, 1 / 100 ≤ x := by
  obtain ⟨_, _, _, _, _, _, _, hte, _⟩ := diffusionCoefficient_ok h
  exact teProfile_ok hte

/-- What the code guarantees about the two length scales: at every level for which
    `dissipation_bougeault` returns, `dlu[iz]` is its start value `z[nz] - z[iz] - dz[iz]/2` or
    was replaced by some `max(1., …) ≥ 1`; `dld[iz]` is `z[iz] + dz[iz]/2` or `≥ 1`
    (for any profile, any `te`, any symbol interpretation). -/
theorem length_scale_start_or_ge_one (sym : Sym K) (g : K) (nz iz : Nat) (z dz te pt : List K)
    (r : K × K) (h : dissipAt sym g nz z dz te pt iz = .ok r) :
    (r.1 = z.getD nz 0 - z.getD iz 0 - dz.getD iz 0 / 2 ∨ 1 ≤ r.1) ∧
    (r.2 = z.getD iz 0 + dz.getD iz 0 / 2 ∨ 1 ≤ r.2) := by
  unfold dissipAt at h
  simp only [Except.bind_eq_ok, Except.pure_eq_ok, idx_getD] at h
  obtain ⟨_, ⟨_, rfl⟩, _, ⟨_, rfl⟩, _, ⟨_, rfl⟩, ptiz, _, beta, _, up, hup, dn, hdn, rfl⟩ := h
  -- invariant of either scan: the length is still its start value, or `≥ 1`
  exact ⟨foldE_inv _ (fun _ => upStep_len) (Or.inl rfl) hup,
    foldE_inv _ (fun _ => dnStep_len) (Or.inl rfl) hdn⟩

theorem dissipation_nonneg {sym : Sym K} {g : K} {nz : Nat} {z dz te pt : List K}
    {r : List K × List K} (hg : GridOK nz z dz)
    (h : dissipation sym g nz z dz te pt = .ok r) :
    ∀ i, i < nz → 0 ≤ r.1.getD i 0 ∧ 0 ≤ r.2.getD i 0 := by
  unfold dissipation at h
  simp only [Except.bind_eq_ok, Except.pure_eq_ok] at h
  obtain ⟨rows, hrows, rfl⟩ := h
  intro i hi
  obtain ⟨h1, h2⟩ := length_scale_start_or_ge_one (h := (mapE_range (0, 0) hrows).2 i hi)
  rw [List.getD_map _ ((0 : K), (0 : K)) (·.1), List.getD_map _ ((0 : K), (0 : K)) (·.2)]
  constructor
  · rcases h1 with e | e
    · rw [e]; exact hg.up i hi
    · exact zero_le_one.trans e
  · rcases h2 with e | e
    · rw [e]; exact hg.down i hi
    · exact zero_le_one.trans e

/-- Whenever `diffusion_coefficient` returns, `Kt` has `nz + 1` entries and every entry is `≥ 0`,
    provided `sqrt` is non-negative on `[0, ∞)` and the grid satisfies `GridOK`: for every
    `iz < nz`, `z[nz] - z[iz] - dz[iz]/2 ≥ 0` (start value of `dlu`), `z[iz] + dz[iz]/2 ≥ 0` (start
    value of `dld`) and `(z[iz] + z[iz+1])/2 ≥ 0` (the cap `dlg`). Reason, from the code:
    `Kt[iz] = 0.4 * min(dlu, min(dld, dlg)) * sqrt(te)` where each of `dlu`, `dld` is its start
    value or was replaced by some `max(1., …) ≥ 1`, and `te ≥ 0.01`. -/
theorem kt_nonneg (sym : Sym K) (P : Param K) (rho z0 disp tempRur heatRur uref : K)
    (z dz th : List K) (nz : Nat) (out : CoefOut K)
    (hsqrt : ∀ x, 0 ≤ x → 0 ≤ sym.sqrt x) (hgrid : GridOK nz z dz)
    (h : diffusionCoefficient sym P rho z dz z0 disp tempRur heatRur nz uref th = .ok out) :
    out.kt.length = nz + 1 ∧ ∀ k ∈ out.kt, 0 ≤ k := by
  obtain ⟨_, _, dld0, dls, dlk, kt0, last, _, hdl, hlb, hkt0, hlast, hkt⟩ :=
    diffusionCoefficient_ok h
  obtain ⟨hk0, hk⟩ := mapE_range 0 hkt0
  have h0 : ∀ k ∈ kt0, 0 ≤ k := (forall_mem_iff_getD 0 hk0).mpr fun i hi => by
    obtain ⟨hu, hd⟩ := dissipation_nonneg hgrid hdl i hi
    obtain ⟨s1, s2⟩ := lengthBougeault_ok hlb i hi
    obtain ⟨ht, e⟩ := ktAt_ok (hk i hi)
    rw [e, s2, s1]
    exact mul_nonneg (mul_nonneg (by norm_num) (le_min hu (le_min hd (hgrid.mid i hi))))
      (hsqrt _ ht)
  have hlast' : 0 ≤ last :=
    List.forall_mem_append.mpr ⟨h0, List.forall_mem_singleton.mpr le_rfl⟩ _ (idxPred_mem hlast)
  rw [hkt]
  exact ⟨by rw [List.length_append, hk0]; rfl,
    List.forall_mem_append.mpr ⟨h0, List.forall_mem_singleton.mpr hlast'⟩⟩

/-- Whenever `diffusion_coefficient` returns, with `dlu`, `dld` the two length profiles it leaves on
    the object (`self.dlu`, `self.dld`, the latter already capped):
    `Kt[iz] = 0.4 * min(dlu[iz], dld[iz]) * sqrt(te[iz])` and `dld[iz] ≤ (z[iz] + z[iz+1])/2` for
    every `iz < nz`, and `Kt[nz] = Kt[nz-1]` (for `nz ≥ 1`). No hypotheses; the harness evaluates
    these equations on what the real `diffusion_coefficient` returns. -/
theorem kt_formula (sym : Sym K) (P : Param K) (rho z0 disp tempRur heatRur uref : K)
    (z dz th : List K) (nz : Nat) (out : CoefOut K)
    (h : diffusionCoefficient sym P rho z dz z0 disp tempRur heatRur nz uref th = .ok out) :
    (∀ i, i < nz →
      out.kt.getD i 0 =
        2 / 5 * min (out.dlu.getD i 0) (out.dld.getD i 0) * sym.sqrt (out.te.getD i 0) ∧
      out.dld.getD i 0 ≤ (z.getD i 0 + z.getD (i + 1) 0) / 2) ∧
    (1 ≤ nz → out.kt.getD nz 0 = out.kt.getD (nz - 1) 0) := by
  obtain ⟨_, _, dld0, dls, dlk, kt0, last, _, _, hlb, hkt0, hlast, hkt⟩ :=
    diffusionCoefficient_ok h
  obtain ⟨hk0, hk⟩ := mapE_range 0 hkt0
  rw [hkt]
  constructor
  · intro i hi
    obtain ⟨s1, s2⟩ := lengthBougeault_ok hlb i hi
    rw [List.getD_append _ _ _ _ (hk0 ▸ hi), (ktAt_ok (hk i hi)).2, s2]
    exact ⟨rfl, s1 ▸ min_le_right _ _⟩
  · intro h1
    obtain ⟨m, rfl⟩ : ∃ m, nz = m + 1 := ⟨nz - 1, by omega⟩
    obtain ⟨_, rfl⟩ := idx_getD.mp hlast
    rw [getD_concat hk0, Nat.add_sub_cancel, List.getD_append _ _ _ _ (by omega),
      List.getD_append _ _ _ _ (by omega)]

/-- `kt_nonneg` for the real square root: the hypothesis on the symbol is discharged. -/
theorem kt_nonneg_real (P : Param ℝ) (rho z0 disp tempRur heatRur uref : ℝ) (z dz th : List ℝ)
    (nz : Nat) (out : CoefOut ℝ) (hgrid : GridOK nz z dz)
    (h : diffusionCoefficient realSym P rho z dz z0 disp tempRur heatRur nz uref th = .ok out) :
    out.kt.length = nz + 1 ∧ ∀ k ∈ out.kt, 0 ≤ k :=
  kt_nonneg realSym P rho z0 disp tempRur heatRur uref z dz th nz out
    (fun x _ => Real.sqrt_nonneg x) hgrid h

/-- The rational stand-in for `sqrt` used by the correspondence driver satisfies the hypothesis
    of `kt_nonneg`, so the oracle `Kt ≥ 0` is also meaningful on fractionised runs. -/
theorem stub_sqrt_nonneg : ∀ x : ℚ, 0 ≤ x → 0 ≤ stubQ.sqrt x := by
  intro x hx
  show 0 ≤ (x + 1) / 2
  positivity

/-! ### the grid of `RSMDef.__init__` -/

/-- `z[i] + dz[i]/2`, the top of cell `i`, is the interface height `z_meso[i+1]`. -/
private theorem cell_top (a b : K) : 1 / 2 * (a + b) + (b - a) / 2 = b := by ring

private theorem mono_of_adjacent {α : Type} [Preorder α] {f : Nat → α} {n : Nat}
    (hinc : ∀ i, i + 1 < n → f i < f (i + 1)) : ∀ i j, i ≤ j → j < n → f i ≤ f j := by
  intro i j hij
  induction j, hij using Nat.le_induction with
  | base => exact fun _ => le_rfl
  | succ j _ ih => exact fun hj => (ih (Nat.lt_of_succ_lt hj)).trans (hinc j hj).le

theorem gridOK_of_monotone (zm : List K) (nz : Nat) (hnz : nz + 1 < zm.length)
    (h0 : 0 ≤ zm.getD 0 0) (mono : ∀ i j, i ≤ j → j ≤ nz + 1 → zm.getD i 0 ≤ zm.getD j 0) :
    GridOK nz (mesoGrid zm).1 (mesoGrid zm).2 := by
  have hg := fun i (hi : i ≤ nz) => mesoGrid_getD zm i (by omega)
  have hpos := fun j (hj : j ≤ nz + 1) => h0.trans (mono 0 j (Nat.zero_le j) hj)
  refine ⟨fun i hi => ?_, fun i hi => ?_, fun i hi => ?_⟩
  · rw [(hg i hi.le).1, (hg i hi.le).2, (hg nz le_rfl).1, sub_sub, cell_top]
    linarith [mono (i + 1) nz hi (Nat.le_succ nz), mono (i + 1) (nz + 1) (by omega) le_rfl]
  · rw [(hg i hi.le).1, (hg i hi.le).2, cell_top]
    exact hpos (i + 1) (by omega)
  · have hz : ∀ k, k ≤ nz → 0 ≤ (mesoGrid zm).1.getD k 0 := fun k hk => by
      rw [(hg k hk).1]
      exact mul_nonneg one_half_pos.le (add_nonneg (hpos k (by omega)) (hpos (k + 1) (by omega)))
    exact div_nonneg (add_nonneg (hz i hi.le) (hz (i + 1) hi)) zero_le_two

/-- The grid `RSMDef.__init__` builds from interface heights `z_meso` (`z` = mid-points, `dz` =
    differences) satisfies the grid hypotheses of `kt_nonneg` for every `nz` below the number of
    cells, and all spacings are positive, as soon as `z_meso` is strictly increasing and starts at a
    non-negative height (checked on the shipped `z_meso.txt` by the harness). -/
theorem gridOK_of_meso (zm : List K) (h0 : 0 ≤ zm.getD 0 0)
    (hinc : ∀ i, i + 1 < zm.length → zm.getD i 0 < zm.getD (i + 1) 0) (nz : Nat)
    (hnz : nz < (mesoGrid zm).1.length) :
    GridOK nz (mesoGrid zm).1 (mesoGrid zm).2 ∧
    ∀ i, i < (mesoGrid zm).2.length → 0 < (mesoGrid zm).2.getD i 0 := by
  obtain ⟨h1, h2⟩ := mesoGrid_length zm
  rw [h1] at hnz
  refine ⟨gridOK_of_monotone zm nz (by omega) h0 fun i j hij hj =>
    mono_of_adjacent hinc i j hij (by omega), fun i hi => ?_⟩
  rw [(mesoGrid_getD zm i (by omega)).2]
  exact sub_pos.mpr (hinc i (by omega))

/-! ### the profile part of `vdm` -/

/-- Whenever the profile part of `vdm` returns, under `VdmHyp` (positive `r`, `cp`, `g ≥ 0`,
    positive forcing temperature and pressure, positive old potential temperatures above the lowest
    level, positive old top pressure `presProf[nzref-1]`, positive spacings, list lengths of the
    constructor) and `rpow` positive for positive base and exponent: the new potential temperature
    is the old one with `tempProf[0] = forc.temp`; all `nzref` pressures, real temperatures and
    centre densities and all `nzref + 1` interface densities are positive. -/
theorem density_pos (sym : Sym K) (P : Param K) (nzref : Nat) (dz : List K) (F : Forc K)
    (st : VdmState K) (temp pres treal dC dS : List K)
    (hpow : ∀ a b : K, 0 < a → 0 < b → 0 < sym.rpow a b) (H : VdmHyp P nzref dz F st)
    (h : vdmProfiles sym P nzref dz F st = .ok (temp, pres, treal, dC, dS)) :
    temp = st.tempProf.set 0 F.temp ∧
    (pres.length = nzref ∧ ∀ x ∈ pres, 0 < x) ∧ (treal.length = nzref ∧ ∀ x ∈ treal, 0 < x) ∧
    (dC.length = nzref ∧ ∀ x ∈ dC, 0 < x) ∧ (dS.length = nzref + 1 ∧ ∀ x ∈ dS, 0 < x) := by
  unfold vdmProfiles at h
  simp only [Except.bind_eq_ok, Except.pure_eq_ok, setC_eq_ok] at h
  obtain ⟨_, ⟨_, rfl⟩, pres, hpres, treal, htreal, dC, hdC, c0, hc0, _, ⟨h0l, rfl⟩, dS1, hdS1,
    cl, hcl, _, ⟨hnl, rfl⟩, h⟩ := h
  cases h
  have n1 := H.nz_ge
  have ht := H.temp_set_pos
  have hP : PInv nzref 0 pres :=
    presLoop_inv hpow H.r_pos H.cp_pos H.g_nonneg H.fpres_pos ht (fun i hi => H.dz_pos i (by omega))
      (m := nzref - 1) (by omega)
      ⟨H.len_pres, fun i hi hin => (show i = nzref - 1 by omega) ▸ H.ptop_pos⟩ hpres
  have hPp := fun i => hP.2 i (Nat.zero_le _)
  obtain ⟨hTl, hT⟩ := storeLoop_range 0 H.len_treal htreal
  have hTp : ∀ i, i < nzref → 0 < treal.getD i 0 := fun i hi =>
    realVal_pos hpow (div_pos H.r_pos H.cp_pos) H.fpres_pos (ht i hi) (hPp i hi) (hT i hi)
  obtain ⟨hCl, hC⟩ := storeLoop_range 0 H.len_dC hdC
  have hCp : ∀ i, i < nzref → 0 < dC.getD i 0 := fun i hi =>
    densCVal_pos H.r_pos (hPp i hi) (hTp i hi) (hC i hi)
  have hCm := (forall_mem_iff_getD 0 hCl).mpr hCp
  -- interface densities: `dS[0] = dC[0]`, the interior loop, `dS[nzref] = dC[nzref-1]`
  obtain ⟨hS1len, hS1out, hS1in⟩ := storeLoop_ok 0 hdS1
  have hSl : (dS1.set nzref cl).length = nzref + 1 := by
    rw [List.length_set, hS1len, List.length_set, H.len_dS]
  refine ⟨rfl, ⟨hP.1, (forall_mem_iff_getD 0 hP.1).mpr hPp⟩,
    ⟨hTl, (forall_mem_iff_getD 0 hTl).mpr hTp⟩, ⟨hCl, hCm⟩, hSl,
    (forall_mem_iff_getD 0 hSl).mpr fun j hj => ?_⟩
  rcases Nat.lt_succ_iff_lt_or_eq.mp hj with hlt | rfl
  · rw [getD_set_ne (Nat.ne_of_gt hlt)]
    rcases Nat.eq_zero_or_pos j with rfl | h0
    · rw [hS1out 0 fun h => Nat.not_succ_le_zero 0 (List.mem_range'_1.mp h).1,
        getD_set_self h0l]
      exact hCm _ (idx_mem hc0)
    · exact densSVal_pos (hCp j hlt) (hCp (j - 1) (by omega)) (H.dz_pos _ (by omega))
        (H.dz_pos _ (by omega)) (hS1in j (List.mem_range'_1.mpr ⟨h0, by omega⟩))
  · rw [getD_set_self hnl]
    exact hCm _ (idxPred_mem hcl)

/-- The two density statements of `density_pos`, for the real power function. -/
theorem density_pos_real (P : Param ℝ) (nzref : Nat) (dz : List ℝ) (F : Forc ℝ) (st : VdmState ℝ)
    (temp pres treal dC dS : List ℝ) (H : VdmHyp P nzref dz F st)
    (h : vdmProfiles realSym P nzref dz F st = .ok (temp, pres, treal, dC, dS)) :
    (dC.length = nzref ∧ ∀ x ∈ dC, 0 < x) ∧ (dS.length = nzref + 1 ∧ ∀ x ∈ dS, 0 < x) :=
  let r := density_pos realSym P nzref dz F st temp pres treal dC dS
    (fun _ b ha _ => Real.rpow_pos_of_pos ha b) H h
  ⟨r.2.2.2.1, r.2.2.2.2⟩

/-- The rational stand-in for `rpow` satisfies the hypothesis of `density_pos`. -/
theorem stub_rpow_pos : ∀ a b : ℚ, 0 < a → 0 < b → 0 < stubQ.rpow a b := by
  intro a b ha hb
  show 0 < a * b + 1
  positivity

/-! ### composition: a `vdm` step -/

/-- The hypotheses of the composition: `VdmHyp`, at least two levels, the grid hypotheses of
    `kt_nonneg`, `dz[nzref]` exists, non-negative timestep. -/
structure StepHyp (P : Param K) (nzref : Nat) (dt : K) (z dz : List K) (F : Forc K)
    (st : VdmState K) : Prop where
  prof : VdmHyp P nzref dz F st
  nz_ge : 2 ≤ nzref
  grid : GridOK nzref z dz
  len_dz : nzref + 1 ≤ dz.length
  dt_nonneg : 0 ≤ dt

/-- Under `StepHyp` and the two symbol hypotheses, whenever `vdm` reaches the call of
    `diffusion_equation`, the arguments it passes — `co = tempProf` (with the new
    `tempProf[0] = forc.temp`), `da = densityProfC`, `daz = densityProfS`, `cd = Kt` of
    `diffusion_coefficient`, `dz` — satisfy `Admissible`, the hypothesis of the maximum
    principle. -/
theorem vdm_step_admissible (sym : Sym K) (P : Param K) (nzref : Nat) (dt : K) (z dz : List K)
    (z0r disp : K) (F : Forc K) (sens : K) (st : VdmState K) (pre : VdmPre K)
    (hsqrt : ∀ x, 0 ≤ x → 0 ≤ sym.sqrt x)
    (hpow : ∀ a b : K, 0 < a → 0 < b → 0 < sym.rpow a b)
    (H : StepHyp P nzref dt z dz F st)
    (h : vdmPre sym P nzref z dz z0r disp F sens st = .ok pre) :
    Admissible nzref dt pre.temp pre.dC pre.dS pre.coef.kt dz := by
  obtain ⟨hprof, rho, t0, hco⟩ := vdmPre_ok h
  obtain ⟨htemp, _, _, ⟨hCl, hC⟩, ⟨hSl, hS⟩⟩ :=
    density_pos (hpow := hpow) (H := H.prof) (h := hprof)
  obtain ⟨hkl, hk⟩ := kt_nonneg (hsqrt := hsqrt) (hgrid := H.grid) (h := hco)
  exact {
    nz_ge := H.nz_ge
    len_co := by rw [htemp, List.length_set]; exact H.prof.len_temp
    len_da := hCl
    len_daz := hSl
    len_cd := hkl
    len_dz := H.len_dz
    dt_nonneg := H.dt_nonneg
    da_pos := (forall_mem_iff_getD 0 hCl).mp hC
    daz_pos := fun i hi => (forall_mem_iff_getD 0 hSl).mp hS i (by omega)
    cd_nonneg := fun i hi => (forall_mem_iff_getD 0 hkl).mp hk i (by omega)
    dz_pos := H.prof.dz_pos }

/-- Under the same hypotheses the call of `diffusion_equation` inside `vdm` cannot fail: once
    `diffusion_coefficient` has returned, the new potential-temperature profile exists (any later
    exception of `vdm` can only come from the wind-profile or average-pressure loops). -/
theorem vdm_diffusion_returns (sym : Sym K) (P : Param K) (nzref : Nat) (dt : K) (z dz : List K)
    (z0r disp : K) (F : Forc K) (sens : K) (st : VdmState K) (pre : VdmPre K)
    (hsqrt : ∀ x, 0 ≤ x → 0 ≤ sym.sqrt x)
    (hpow : ∀ a b : K, 0 < a → 0 < b → 0 < sym.rpow a b)
    (H : StepHyp P nzref dt z dz F st)
    (h : vdmPre sym P nzref z dz z0r disp F sens st = .ok pre) :
    ∃ xs, diffusion nzref dt pre.temp pre.dC pre.dS pre.coef.kt dz = .ok xs ∧ xs.length = nzref :=
  diffusion_defined (h := vdm_step_admissible (hsqrt := hsqrt) (hpow := hpow) (H := H) (h := h))

/-- A returned `vdm` step decomposes into `vdmPre` and the call of `diffusion_equation`; the
    profiles left on the object are those of `vdmPre`. -/
theorem vdm_decompose (sym : Sym K) (P : Param K) (nzref nzfor : Nat) (dt : K) (z dz : List K)
    (z0r disp : K) (F : Forc K) (sens : K) (st : VdmState K) (out : VdmOut K)
    (h : vdm sym P nzref nzfor dt z dz z0r disp F sens st = .ok out) :
    ∃ pre, vdmPre sym P nzref z dz z0r disp F sens st = .ok pre ∧
      pre.temp = st.tempProf.set 0 F.temp ∧ 0 < st.tempProf.length ∧
      diffusion nzref dt pre.temp pre.dC pre.dS pre.coef.kt dz = .ok out.st.tempProf ∧
      out.st.presProf = pre.pres ∧ out.st.densityProfC = pre.dC ∧ out.st.densityProfS = pre.dS ∧
      out.st.tempRealProf = pre.treal := by
  unfold vdm at h
  simp only [Except.bind_eq_ok, Except.pure_eq_ok] at h
  obtain ⟨pre, hpre, newT, hT, wind, _, ubl, _, rfl⟩ := h
  obtain ⟨hlen, htemp⟩ := vdmProfiles_temp (vdmPre_ok hpre).1
  exact ⟨pre, hpre, htemp, hlen, liftPy_eq_ok.mp hT, rfl, rfl, rfl, rfl⟩

/-- Under `StepHyp` and the symbol hypotheses, the potential-temperature profile after a returned
    `vdm` step lies between any bounds `m ≤ M` of the profile before the step with the forcing
    temperature at the lowest level (levels `0 … nzref-2`; the old top value is never read): a `vdm`
    step creates no new extremum of potential temperature. -/
theorem vdm_max_principle (sym : Sym K) (P : Param K) (nzref nzfor : Nat) (dt : K) (z dz : List K)
    (z0r disp : K) (F : Forc K) (sens : K) (st : VdmState K) (out : VdmOut K)
    (hsqrt : ∀ x, 0 ≤ x → 0 ≤ sym.sqrt x)
    (hpow : ∀ a b : K, 0 < a → 0 < b → 0 < sym.rpow a b)
    (H : StepHyp P nzref dt z dz F st)
    (h : vdm sym P nzref nzfor dt z dz z0r disp F sens st = .ok out) (m M : K)
    (hb : ∀ j, j + 2 ≤ nzref →
      m ≤ (st.tempProf.set 0 F.temp).getD j 0 ∧ (st.tempProf.set 0 F.temp).getD j 0 ≤ M) :
    out.st.tempProf.length = nzref ∧ ∀ x ∈ out.st.tempProf, m ≤ x ∧ x ≤ M := by
  obtain ⟨pre, hpre, htemp, _, hdiff, _⟩ := vdm_decompose (h := h)
  have hadm := vdm_step_admissible (hsqrt := hsqrt) (hpow := hpow) (H := H) (h := hpre)
  refine ⟨(diffusion_exact (hxs := hdiff)).2.1, ?_⟩
  exact max_principle (h := hadm) (hxs := hdiff) (hb := by rw [htemp]; exact hb)

/-- `vdm_max_principle` for the real functions (`Real.sqrt`, real powers): both symbol
    hypotheses are discharged. -/
theorem vdm_max_principle_real (P : Param ℝ) (nzref nzfor : Nat) (dt : ℝ) (z dz : List ℝ)
    (z0r disp : ℝ) (F : Forc ℝ) (sens : ℝ) (st : VdmState ℝ) (out : VdmOut ℝ)
    (H : StepHyp P nzref dt z dz F st)
    (h : vdm realSym P nzref nzfor dt z dz z0r disp F sens st = .ok out) (m M : ℝ)
    (hb : ∀ j, j + 2 ≤ nzref →
      m ≤ (st.tempProf.set 0 F.temp).getD j 0 ∧ (st.tempProf.set 0 F.temp).getD j 0 ≤ M) :
    out.st.tempProf.length = nzref ∧ ∀ x ∈ out.st.tempProf, m ≤ x ∧ x ≤ M :=
  vdm_max_principle realSym P nzref nzfor dt z dz z0r disp F sens st out
    (fun x _ => Real.sqrt_nonneg x) (fun _ b ha _ => Real.rpow_pos_of_pos ha b) H h m M hb

/-- After every returned `vdm` step with `nzref ≥ 2` (no sign hypotheses) the lowest level holds
    the measured rural air temperature `forc.temp` and the top two levels are equal. -/
theorem vdm_boundaries (sym : Sym K) (P : Param K) (nzref nzfor : Nat) (dt : K) (z dz : List K)
    (z0r disp : K) (F : Forc K) (sens : K) (st : VdmState K) (out : VdmOut K) (h2 : 2 ≤ nzref)
    (h : vdm sym P nzref nzfor dt z dz z0r disp F sens st = .ok out) :
    out.st.tempProf[0]? = some F.temp ∧
    ∃ t, out.st.tempProf[nzref - 1]? = some t ∧ out.st.tempProf[nzref - 2]? = some t := by
  obtain ⟨pre, _, htemp, hlen, hdiff, _⟩ := vdm_decompose (h := h)
  refine ⟨?_, top_equal (h2 := h2) (hxs := hdiff)⟩
  obtain ⟨t, h0, hx⟩ := bottom_dirichlet (h2 := h2) (hxs := hdiff)
  rw [htemp, List.getElem?_set_self hlen] at h0
  cases h0
  exact hx

/-- Conservation through a returned `vdm` step with `nzref ≥ 2` (no sign hypotheses): with the
    density profiles the step leaves on the object and `cd` the `Kt` of `diffusion_coefficient`,
    the heat content of the interior column changes by `dt` × the flux through its lowest
    interface. -/
theorem vdm_conservation (sym : Sym K) (P : Param K) (nzref nzfor : Nat) (dt : K) (z dz : List K)
    (z0r disp : K) (F : Forc K) (sens : K) (st : VdmState K) (out : VdmOut K) (h2 : 2 ≤ nzref)
    (h : vdm sym P nzref nzfor dt z dz z0r disp F sens st = .ok out) :
    ∃ pre, vdmPre sym P nzref z dz z0r disp F sens st = .ok pre ∧
      sumFrom (fun i => out.st.densityProfC.getD i 0 * dz.getD i 0 *
          (out.st.tempProf.getD i 0 - (st.tempProf.set 0 F.temp).getD i 0)) 1 (nzref - 2) =
        dt * (2 * out.st.densityProfS.getD 1 0 * pre.coef.kt.getD 1 0 /
          (dz.getD 1 0 + dz.getD 0 0)) * (out.st.tempProf.getD 0 0 - out.st.tempProf.getD 1 0) := by
  obtain ⟨pre, hpre, htemp, _, hdiff, _, hC, hS, _⟩ := vdm_decompose (h := h)
  refine ⟨pre, hpre, ?_⟩
  rw [hC, hS, ← htemp]
  exact interior_conservation (h2 := h2) (hxs := hdiff)

/-- The hypotheses are an invariant of the simulation loop: after a returned `vdm` step under
    `StepHyp`, the state left on the object satisfies `StepHyp` again for any next forcing with
    positive temperature and pressure and any non-negative next timestep (list lengths are kept, the
    new potential temperatures are positive because they lie between old positive values, all new
    pressures are positive). This is the step of an induction over a run in which every forcing
    has positive temperature and pressure and every `vdm` step returns; the induction itself, which
    would give `vdm_max_principle` at every step from `StepHyp` at the first, is not stated. -/
theorem vdm_step_preserves (sym : Sym K) (P : Param K) (nzref nzfor : Nat) (dt : K) (z dz : List K)
    (z0r disp : K) (F : Forc K) (sens : K) (st : VdmState K) (out : VdmOut K)
    (hsqrt : ∀ x, 0 ≤ x → 0 ≤ sym.sqrt x)
    (hpow : ∀ a b : K, 0 < a → 0 < b → 0 < sym.rpow a b)
    (H : StepHyp P nzref dt z dz F st)
    (h : vdm sym P nzref nzfor dt z dz z0r disp F sens st = .ok out)
    (F' : Forc K) (dt' : K) (hT : 0 < F'.temp) (hP : 0 < F'.pres) (hdt : 0 ≤ dt') :
    StepHyp P nzref dt' z dz F' out.st := by
  obtain ⟨pre, hpre, htemp, _, hdiff, hpres, hC, hS, hR⟩ := vdm_decompose (h := h)
  have hadm := vdm_step_admissible (hsqrt := hsqrt) (hpow := hpow) (H := H) (h := hpre)
  obtain ⟨_, ⟨hPl, hPp⟩, ⟨hRl, _⟩, ⟨hCl, _⟩, ⟨hSl, _⟩⟩ :=
    density_pos (hpow := hpow) (H := H.prof) (h := (vdmPre_ok hpre).1)
  have hxl := (diffusion_exact (hxs := hdiff)).2.1
  have hatt := max_principle_attained (h := hadm) (hxs := hdiff)
  have n2 := H.nz_ge
  exact { H with
    prof := { H.prof with
      ftemp_pos := hT
      fpres_pos := hP
      len_temp := hxl
      len_pres := hpres ▸ hPl
      len_treal := hR ▸ hRl
      len_dC := hC ▸ hCl
      len_dS := hS ▸ hSl
      -- every new value is at least some old one, and the old profile is positive
      temp_pos := fun i _ hi => by
        refine (forall_mem_iff_getD 0 hxl).mp (fun x hx => ?_) i hi
        obtain ⟨⟨j, hj, hle⟩, _⟩ := hatt x hx
        exact lt_of_lt_of_le (htemp ▸ H.prof.temp_set_pos j (by omega)) hle
      ptop_pos := hpres ▸ (forall_mem_iff_getD 0 hPl).mp hPp _ (by omega) }
    dt_nonneg := hdt }

/-! ### Non-vacuity -/

/-- A concrete grid, state and forcing over ℚ meet every hypothesis of the composition … -/
example : StepHyp (K := ℚ) ⟨287, 1004, 981 / 100, 2 / 5, 1000⟩ 2 300 [2, 31 / 5, 541 / 50]
    [4, 22 / 5, 121 / 25] ⟨300, 101325, 3⟩
    ⟨[299, 301], [101300, 101250], [299, 301], [1, 1], [1, 1, 1], [1, 1]⟩ where
  prof := {
    nz_ge := by norm_num
    r_pos := by norm_num
    cp_pos := by norm_num
    g_nonneg := by norm_num
    ftemp_pos := by norm_num
    fpres_pos := by norm_num
    len_temp := rfl
    len_pres := rfl
    len_treal := rfl
    len_dC := rfl
    len_dS := rfl
    temp_pos := by decide +kernel
    ptop_pos := by norm_num
    dz_pos := by decide +kernel }
  nz_ge := le_rfl
  grid := {
    up := by decide +kernel
    down := by decide +kernel
    mid := by decide +kernel }
  len_dz := by simp
  dt_nonneg := by norm_num

/-- … and on it the model of `vdm` (with the rational stand-ins, which satisfy both symbol
    hypotheses) returns, so the theorems above are not vacuous. -/
example : (match vdm stubQ (⟨287, 1004, 981 / 100, 2 / 5, 1000⟩ : Param ℚ) 2 1 300
    [2, 31 / 5, 541 / 50] [4, 22 / 5, 121 / 25] (1 / 100) (1 / 20) ⟨300, 101325, 3⟩ 50
    ⟨[299, 301], [101300, 101250], [299, 301], [1, 1], [1, 1, 1], [1, 1]⟩ with
    | .ok out => out.st.tempProf.length == 2
    | .error _ => false) = true := by
  decide +kernel

/-- The first cells of the shipped grid: `mesoGrid` of `0, 4, 8.4, 13.24`. -/
example : mesoGrid ([0, 4, 42 / 5, 331 / 25] : List ℚ) =
    ([2, 31 / 5, 541 / 50], [4, 22 / 5, 121 / 25]) := by
  norm_num [mesoGrid]

end Uwg.C16
