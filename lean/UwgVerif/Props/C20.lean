/-
C20 — Ground columns are refined and padded without changing their physics.
-/
import UwgVerif.Model.Procmat
import Mathlib.Data.Rat.Floor

namespace Uwg.C20

section
variable {K : Type} [Field K]

/-- An additive layer measure that is linear in the thickness: the sum over the layers of `d * w k c`, with a
    weight `w` that does not see the thickness (thickness: `w = 1`, resistance: `w = 1 / k`, capacity: `w = c`). -/
def totalOf (w : K → K → K) (ls : List (Lay K)) : K := (ls.map fun l => l.d * w l.k l.c).sum

theorem totals_eq {a b : List (Lay K)} (h : ∀ w, totalOf w a = totalOf w b) :
    totalThickness a = totalThickness b ∧ totalResistance a = totalResistance b ∧
    totalCapacity a = totalCapacity b := by
  have h1 := h fun _ _ => 1
  have h2 := h fun k _ => 1 / k
  simp only [totalOf, mul_one, mul_one_div] at h1 h2
  exact ⟨h1, h2, h fun _ c => c⟩

@[simp] private theorem total_nil (w : K → K → K) : totalOf w [] = 0 := rfl

@[simp] private theorem total_cons (w : K → K → K) (l : Lay K) (ls : List (Lay K)) :
    totalOf w (l :: ls) = l.d * w l.k l.c + totalOf w ls := by
  simp [totalOf]

private theorem total_append (w : K → K → K) (a b : List (Lay K)) :
    totalOf w (a ++ b) = totalOf w a + totalOf w b := by
  simp [totalOf]

end

variable {K : Type} [Field K] [LinearOrder K] [IsStrictOrderedRing K] [FloorRing K]

private theorem two_le_ceil_div {maxT d : K} (hmax : 0 < maxT) (hd : maxT < d) : 2 ≤ ⌈d / maxT⌉₊ :=
  Nat.lt_ceil.2 (by rwa [Nat.cast_one, lt_div_iff₀ hmax, one_mul])

private theorem total_subdivide (w : K → K → K) {maxT : K} (l : Lay K) (hmax : 0 < maxT)
    (hd : maxT < l.d) : totalOf w (subdivide maxT l) = l.d * w l.k l.c := by
  have hn := two_le_ceil_div hmax hd
  have hn0 : ((⌈l.d / maxT⌉₊ : ℕ) : K) ≠ 0 := Nat.cast_ne_zero.2 (by omega)
  simp only [totalOf, subdivide, List.map_replicate, List.sum_replicate, nsmul_eq_mul]
  field_simp

private theorem total_splitLayer (w : K → K → K) {maxT minT : K} (l : Lay K) (hmax : 0 < maxT) :
    totalOf w (splitLayer maxT minT l) = if maxT < l.d ∨ minT ≤ l.d then l.d * w l.k l.c else 0 := by
  unfold splitLayer
  split
  · next h => rw [if_pos (Or.inl h), total_subdivide w l hmax h]
  · split <;> simp [*]

private theorem total_flatMap (w : K → K → K) {maxT minT : K} (hmax : 0 < maxT) (ls : List (Lay K)) :
    totalOf w (ls.flatMap (splitLayer maxT minT)) =
      totalOf w (ls.filter fun l => maxT < l.d ∨ minT ≤ l.d) := by
  induction ls with
  | nil => rfl
  | cons l ls ih =>
    rw [List.flatMap_cons, total_append, ih, total_splitLayer w l hmax, List.filter_cons]
    split <;> simp [*]

/-- What `procmat` keeps of a construction: a single layer whatever its thickness, of several layers those that
    are subdivided or at least `minT` thick. -/
def kept (maxT minT : K) : List (Lay K) → List (Lay K)
  | [] => []
  | [l] => [l]
  | l :: l' :: rest => (l :: l' :: rest).filter fun l => maxT < l.d ∨ minT ≤ l.d

theorem procmat_measure (w : K → K → K) {maxT minT : K} {ls out : List (Lay K)} (hmax : 0 < maxT)
    (h : procmat maxT minT ls = some out) : totalOf w out = totalOf w (kept maxT minT ls) := by
  match ls, h with
  | [l], h =>
    simp only [procmat] at h
    split at h
    · next hd =>
      cases h
      rw [total_subdivide w l hmax hd, kept, total_cons, total_nil, add_zero]
    · cases h
      simp only [kept, total_cons, total_nil]
      ring
  | l :: l' :: rest, h =>
    simp only [procmat] at h
    cases h
    exact total_flatMap w hmax _

/-- T1 for any thickness-linear measure. -/
theorem procmat_preserves_measure (w : K → K → K) (maxT minT : K) (ls out : List (Lay K))
    (hmax : 0 < maxT) (hall : ∀ l ∈ ls, minT ≤ l.d) (h : procmat maxT minT ls = some out) :
    totalOf w out = totalOf w ls := by
  rw [procmat_measure w hmax h]
  match ls with
  | [] => rfl
  | [l] => rfl
  | l :: l' :: rest => rw [kept, List.filter_eq_self.2 fun q hq => by simp [hall q hq]]

/-- T1. Refinement preserves total thickness, thermal resistance and heat capacity whenever every
    layer is at least `minT` (1 cm) thick (thinner layers of a multi-layer construction are
    dropped by the code, with a warning; a single layer is always just split). -/
theorem procmat_preserves (maxT minT : K) (ls out : List (Lay K))
    (hmax : 0 < maxT) (hall : ∀ l ∈ ls, minT ≤ l.d) (h : procmat maxT minT ls = some out) :
    totalThickness out = totalThickness ls ∧ totalResistance out = totalResistance ls ∧
    totalCapacity out = totalCapacity ls :=
  totals_eq fun w => procmat_preserves_measure w maxT minT ls out hmax hall h

/-- The layers of a construction that are at least `minT` (1 cm) thick - the part the property speaks about. -/
def thickPart (minT : K) (ls : List (Lay K)) : List (Lay K) := ls.filter (fun l => decide (minT ≤ l.d))

/-- T1 at full strength for multi-layer constructions: WHATEVER the thin layers are, the refined
    construction carries exactly the thickness-linear measure of the layers of at least `minT` - thinner layers are
    dropped and every other layer keeps ITS OWN conductivity and heat capacity. -/
theorem procmat_preserves_thick_measure (w : K → K → K) (maxT minT : K) (l l' : Lay K) (rest out : List (Lay K))
    (hmax : 0 < maxT) (hmm : minT ≤ maxT) (h : procmat maxT minT (l :: l' :: rest) = some out) :
    totalOf w out = totalOf w (thickPart minT (l :: l' :: rest)) := by
  rw [procmat_measure w hmax h, kept, thickPart]
  -- a layer thicker than `maxT` is at least `minT` thick
  congr 1
  refine List.filter_congr fun q _ => ?_
  simpa using fun hq : maxT < q.d => hmm.trans hq.le

/-- T1 (multi-layer, mixed thicknesses): total thickness, thermal resistance and heat capacity of the refined
    construction are those of the layers of at least 1 cm. -/
theorem procmat_preserves_thick (maxT minT : K) (l l' : Lay K) (rest out : List (Lay K))
    (hmax : 0 < maxT) (hmm : minT ≤ maxT) (h : procmat maxT minT (l :: l' :: rest) = some out) :
    totalThickness out = totalThickness (thickPart minT (l :: l' :: rest)) ∧
    totalResistance out = totalResistance (thickPart minT (l :: l' :: rest)) ∧
    totalCapacity out = totalCapacity (thickPart minT (l :: l' :: rest)) :=
  totals_eq fun w => procmat_preserves_thick_measure w maxT minT l l' rest out hmax hmm h

/-- Non-vacuity: a wall with a 5 mm membrane between two thick layers; the membrane goes, its neighbours keep
    their own materials. -/
example : procmat (1/20 : ℚ) (1/100) [⟨1/10, 2, 100⟩, ⟨1/200, 5, 7⟩, ⟨2/25, 3, 50⟩] =
    some [⟨1/20, 2, 100⟩, ⟨1/20, 2, 100⟩, ⟨1/25, 3, 50⟩, ⟨1/25, 3, 50⟩] := by decide +kernel

private theorem subdivide_shape {maxT : K} (l : Lay K) (hmax : 0 < maxT) (hd : maxT < l.d) :
    2 ≤ (subdivide maxT l).length ∧ ∀ q ∈ subdivide maxT l, q.d ≤ maxT := by
  have hn := two_le_ceil_div hmax hd
  refine ⟨by simpa [subdivide] using hn, fun q hq => ?_⟩
  obtain ⟨_, rfl⟩ := List.mem_replicate.1 hq
  have hnpos : (0 : K) < (⌈l.d / maxT⌉₊ : ℕ) := Nat.cast_pos.2 (by omega)
  rw [div_le_iff₀ hnpos, mul_comm]
  exact (div_le_iff₀ hmax).1 (Nat.le_ceil _)

private theorem splitLayer_shape {maxT minT : K} (l : Lay K) (hmax : 0 < maxT) (hl : minT ≤ l.d) :
    1 ≤ (splitLayer maxT minT l).length ∧ ∀ q ∈ splitLayer maxT minT l, q.d ≤ maxT := by
  unfold splitLayer
  split
  · next hd =>
    obtain ⟨hlen, hle⟩ := subdivide_shape l hmax hd
    exact ⟨by omega, hle⟩
  · next hd => simpa [not_lt.2 hl] using not_lt.1 hd

/-- T2. When no layer is thinner than `minT` (`hall`), the result has at least two sub-layers and none is thicker
    than `maxT` (5 cm). (With a thinner layer among them the count can fall below two: thicknesses 5 mm and 3 cm
    give one layer.) -/
theorem procmat_shape (maxT minT : K) (ls out : List (Lay K))
    (hmax : 0 < maxT) (hpos : ∀ l ∈ ls, 0 < l.d) (hall : ∀ l ∈ ls, minT ≤ l.d)
    (h : procmat maxT minT ls = some out) :
    2 ≤ out.length ∧ ∀ q ∈ out, q.d ≤ maxT := by
  match ls, h with
  | [l], h =>
    simp only [procmat] at h
    split at h
    · next hd =>
      cases h
      exact subdivide_shape l hmax hd
    · next hd =>
      cases h
      have : l.d / 2 ≤ maxT := (half_le_self (hpos l (by simp)).le).trans (not_lt.1 hd)
      simpa using this
  | l :: l' :: rest, h =>
    simp only [procmat] at h
    cases h
    constructor
    · have h1 := (splitLayer_shape l hmax (hall l (by simp))).1
      have h2 := (splitLayer_shape l' hmax (hall l' (by simp))).1
      simp only [List.flatMap_cons, List.length_append]
      omega
    · intro q hq
      obtain ⟨m, hm, hq⟩ := List.mem_flatMap.1 hq
      exact (splitLayer_shape m hmax (hall m hm)).2 q hq

/-- T1 was false before the repair: a single 1.5 cm layer came back as 2 × 0.5 cm. -/
theorem asis_thin_layer_shrinks :
    (procmatAsis (1/20 : ℚ) (1/100) [⟨3/200, 1, 1⟩]).map totalThickness = some (1/100) ∧
    (procmat (1/20 : ℚ) (1/100) [⟨3/200, 1, 1⟩]).map totalThickness = some (3/200) := by
  constructor <;> norm_num [procmatAsis, procmat, totalThickness]

private theorem padFrom_ok {maxT eps total : K} {depths : List K} {i0 i k : Nat}
    (h : padFrom maxT eps total i0 depths = some (i, k)) :
    ∃ j depth, i = i0 + j ∧ depths[j]? = some depth ∧
      (|depth - total| < eps ∨ depth > total) ∧ k = ⌈(depth - total) / maxT⌉₊ ∧
      ∀ j' < j, ∀ d', depths[j']? = some d' → ¬ (|d' - total| < eps ∨ d' > total) := by
  fun_induction padFrom maxT eps total i0 depths with
  | case1 => cases h
  | case2 i0 depth rest hq =>
    cases h
    exact ⟨0, depth, rfl, rfl, hq, rfl, fun j' hj' => absurd hj' (Nat.not_lt_zero j')⟩
  | case3 i0 depth rest hq ih =>
    obtain ⟨j, d, hi, hd, hqual, hk, hfirst⟩ := ih h
    refine ⟨j + 1, d, by omega, hd, hqual, hk, fun j' hj' d' hd' => ?_⟩
    cases j' with
    | zero => exact Option.some.inj hd' ▸ hq
    | succ j' => exact hfirst j' (Nat.lt_of_succ_lt_succ hj') d' hd'

private theorem pad_ok {maxT eps total : K} {depths : List K} {i k : Nat}
    (h : pad maxT eps total depths = some (i, k)) :
    ∃ depth, depths[i]? = some depth ∧ (|depth - total| < eps ∨ depth > total) ∧
      k = ⌈(depth - total) / maxT⌉₊ ∧
      ∀ j < i, ∀ d', depths[j]? = some d' → ¬ (|d' - total| < eps ∨ d' > total) := by
  obtain ⟨j, d, hi, hd, hq, hk, hf⟩ := padFrom_ok h
  obtain rfl : i = j := by omega
  exact ⟨d, hd, hq, hk, hf⟩

/-- T3. The chosen ground-temperature depth is the first one (in file order) that is at least
    the column thickness (up to the code's 1e-15 tolerance). -/
theorem pad_index (maxT eps total : K) (depths : List K) (i k : Nat)
    (h : pad maxT eps total depths = some (i, k)) :
    ∃ depth, depths[i]? = some depth ∧ (|depth - total| < eps ∨ depth > total) ∧
      ∀ j < i, ∀ d', depths[j]? = some d' → ¬ (|d' - total| < eps ∨ d' > total) :=
  let ⟨d, hd, hq, _, hf⟩ := pad_ok h
  ⟨d, hd, hq, hf⟩

private theorem ceil_div_mul_bounds {a x : K} (ha : 0 < a) (hx : 0 ≤ x) :
    x ≤ ⌈x / a⌉₊ * a ∧ ⌈x / a⌉₊ * a < x + a := by
  refine ⟨(div_le_iff₀ ha).1 (Nat.le_ceil _), (lt_div_iff₀ ha).1 ?_⟩
  rw [add_div, div_self ha.ne']
  exact Nat.ceil_lt_add_one (div_nonneg hx ha.le)

/-- T4. After padding with `k` soil layers of `maxT` the column reaches the chosen depth and
    overshoots it by less than one layer; it ends *exactly* at that depth when the gap is a
    whole number of layers (true of every shipped file: 0.5, 2, 4 m with 5 cm layers). -/
theorem pad_total (maxT eps total : K) (depths : List K) (i k : Nat) (hmax : 0 < maxT)
    (h : pad maxT eps total depths = some (i, k)) :
    ∃ depth, depths[i]? = some depth ∧
      (total ≤ depth → depth ≤ total + k * maxT ∧ total + k * maxT < depth + maxT) ∧
      (depth < total → k = 0 ∧ total - depth < eps) ∧
      (∀ m : Nat, depth - total = m * maxT → total + k * maxT = depth) := by
  obtain ⟨d, hd, hq, rfl, -⟩ := pad_ok h
  refine ⟨d, hd, fun hle => ?_, fun hlt => ?_, fun m hm => ?_⟩
  · obtain ⟨h1, h2⟩ := ceil_div_mul_bounds hmax (sub_nonneg.2 hle)
    exact ⟨sub_le_iff_le_add'.1 h1, by linarith⟩
  · have hk0 : ⌈(d - total) / maxT⌉₊ = 0 :=
      Nat.ceil_eq_zero.2 (div_nonpos_of_nonpos_of_nonneg (sub_neg.2 hlt).le hmax.le)
    refine ⟨hk0, ?_⟩
    rcases hq with hq | hq
    · linarith [(abs_lt.1 hq).1]
    · exact absurd hq hlt.not_gt
  · rw [hm, mul_div_cancel_right₀ _ hmax.ne', Nat.ceil_natCast]
    linarith

/-- Non-vacuity: the shipped configuration (0.5 m asphalt road, depths 0.5 / 2 / 4 m). -/
example : pad (1/20 : ℚ) (1/1000000000000000) (1/2) [1/2, 2, 4] = some (0, 0) := by
  norm_num [pad, padFrom]

/-- **The deep-temperature index exists whenever it is read.** If `generate()` returns and the rural file has at
least three ground depths (the case in which every step reads `Tsoil[_soilindex1]`), the index was set by this very
call: `idx = some i`, where `none` stands for an attribute the call left unset. `columnOutcome` carries no object
state, so of a value that an earlier call left behind the statement says nothing. (That the index names a depth of
the file is `pad_index`.) -/
theorem column_index_set (maxT minT eps droad kroad croad ksoil csoil : K) (depths : List K)
    (ls : List (Lay K)) (idx : Option Nat) (h3 : 3 ≤ depths.length)
    (h : columnOutcome maxT minT eps droad kroad croad ksoil csoil depths = .ok ls idx) :
    ∃ i, idx = some i := by
  unfold columnOutcome at h
  split at h
  · cases h
  · rw [if_pos h3] at h; cases h
  · cases h; exact ⟨_, rfl⟩

end Uwg.C20
