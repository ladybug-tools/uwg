/-
Composition D - the whole pipeline `generate(); simulate(); write_epw()` with the concrete pieces plugged in
(`Model/Pipeline.lean`): header reader `Epw.readHeader`, `Weather.read`, the road column `columnOutcome`,
`forcingOf` / `stepW` over the real loop body `Step.step`, the writer `Csv.writeEpw`.

Every statement below is composition A's (`Props/Morph.lean`), C09's, C12's, C20's or C03's statement at the
CONCRETE readers and the CONCRETE physics. The pipeline is `Morph.morph` at these pieces (`pipeline_eq_morph`), so a
run that writes a file has the anatomy composition A gives it (`pipeline_anatomy`: the file as `Morph.Morphed`, and
hour by hour the forcing row, the returning pass on it and the record written); the hour-by-hour theorems read their
statements off it and join the component theorems about `Weather.rowRec` and `Step.step`.

Standing hypotheses (of composition A): `ValidRun` (calendar start date, positive timestep dividing one hour, at
least one day, window inside the year), `WellFormed` (8 header rows, window inside the data rows, window rows of at
least 22 cells, no line break inside a cell, no row that is a single empty cell). NO hypothesis on the physics is
left: what `morph_wind` had to assume about `Phys.record` is proved for `physW`.
What the theorems still quantify over (= the parameters of the model, see `Model/Pipeline.lean`): the libm
symbols `S`, the configuration `C0` derived from the parameter file, the initial objects `init`, the pavement
`droad kroad croad`.
-/
import UwgVerif.Lemmas.Pipeline
import UwgVerif.Props.Morph
import UwgVerif.Props.Step

namespace Uwg.Pipeline
open Uwg.Csv Uwg.Sim Uwg.Step Uwg.C02 Uwg.C01 Uwg.Morph Uwg.StepProps

variable (S : Sym ℚ) (C0 : Cfg ℚ) (init : Option Weather.Rec → State ℚ) (droad kroad croad : ℚ)

/-- The ten columns of a rural row that `Weather` reads. -/
def modelledCols : List Nat := [6, 7, 8, 9, 12, 13, 14, 15, 20, 21]

/-! ## The pipeline is composition A at the concrete pieces -/

/-- Whenever the header is readable, `Weather` returns, the first wind cell is a
    number and the road column is accepted, the pipeline IS `Morph.morph` with
    `P = physW S (cfgOf C0 site dt)` (the real loop body on station records, site of the header),
    `proj = projD S` (the station record of a row), `table = tableOf …` (monthly deep temperatures of line 4 at
    the depth the pavement reaches), `mean = meanDeep`, `nSoilGe3 = (3 ≤ nSoil)` - so every theorem of
    composition A applies. In the remaining cases the pipeline stops in `generate()` before any of this. -/
theorem pipeline_eq_morph (dt M Dy days p : Nat) (hdr rows : List Csv.Row) (site : Epw.Site)
    (g : Epw.Ground) (wrecs : List Weather.Rec) (soil : Soil (Deep ℚ)) (h8 : hdr.length = 8)
    (hh : Epw.readHeader hdr = .ok (site, g))
    (hr : Weather.read S (hdr ++ rows) (timeInitial M Dy) (timeFinal M Dy days) = .ok wrecs)
    (hi : initWindText wrecs = false) (hs : soilOf droad kroad croad g wrecs = .ok soil) :
    pipeline S C0 init droad kroad croad dt M Dy days p hdr rows =
      (Morph.morph (physW S (cfgOf C0 site dt)) (decide (3 ≤ g.nSoil)) (tableOf droad kroad croad g)
        meanDeep (projD S) init dt M Dy days p hdr rows).mapError ofMorph := by
  obtain ⟨_, hne, hfa⟩ := Weather.read_eq_ok.1 hr
  rw [weather_window_bridge h8] at hne hfa
  unfold pipeline pipelineCore pipelineSim Morph.morph
  simp only [hh, hr, hi, hs, weatherOk_of_forall₂ hfa hne, simulateHours_days,
    simulateFile_eq (cfgOf C0 site dt) h8 hr hs, Bool.false_eq_true, if_false, if_true]
  cases Clock.create dt M Dy with
  | error e => rfl
  | ok c0 =>
    cases simulate (physW S (cfgOf C0 site dt)) soil dt M Dy days wrecs (init wrecs.head?) with
    | error x => rfl
    | ok x =>
      simp only
      cases writeEpw hdr rows (Morph.startRow M Dy) x.2 p with
      | none => rfl
      | some text => rfl

section
variable {S C0 init droad kroad croad} {dt M Dy days p : Nat} {hdr rows : List Csv.Row} {text : List Char}

/-- What a written file went through: header, `Weather`, soil and loop returned, and `Morph.morph` at the concrete
    pieces wrote the same text (`pipeline_eq_morph` read from the returning side). -/
theorem pipeline_ok_morph (h8 : hdr.length = 8)
    (h : pipeline S C0 init droad kroad croad dt M Dy days p hdr rows = .ok text) :
    ∃ site g wrecs soil s recs, Epw.readHeader hdr = .ok (site, g) ∧
      Weather.read S (hdr ++ rows) (timeInitial M Dy) (timeFinal M Dy days) = .ok wrecs ∧
      soilOf droad kroad croad g wrecs = .ok soil ∧
      pipelineSim S C0 init droad kroad croad dt M Dy days (24 * days) hdr rows = .ok (s, recs) ∧
      simulate (physW S (cfgOf C0 site dt)) soil dt M Dy days wrecs (init wrecs.head?) = .ok (s, recs) ∧
      Morph.morph (physW S (cfgOf C0 site dt)) (decide (3 ≤ g.nSoil)) (tableOf droad kroad croad g)
        meanDeep (projD S) init dt M Dy days p hdr rows = .ok text := by
  obtain ⟨⟨s, recs⟩, hps, _⟩ := pipeline_ok h
  obtain ⟨site, g, c0, wrecs, soil, hh, _, hr, hi, hs, hsim⟩ := pipelineSim_ok hps
  have e := pipeline_eq_morph S C0 init droad kroad croad dt M Dy days p hdr rows site g wrecs soil h8 hh hr hi hs
  exact ⟨site, g, wrecs, soil, s, recs, hh, hr, hs, hps, simulateHours_days .. ▸ hsim,
    Except.mapError_eq_ok.mp (e.symm.trans h)⟩

/-- **Anatomy of a run that writes a file.** The written text is the rural file morphed with the records of the loop
    (`Morphed`), and hour by hour: rural row `24·j₀ + n` has a station record `w` whose four computed cells are numbers
    (`forcingOf w = ok fr`), and what is written to that row is the record the record block made from the post-state
    `sb` of a RETURNING record pass of the loop body on `fr`. -/
theorem pipeline_anatomy (hv : ValidRun dt M Dy days) (hw : WellFormed hdr rows M Dy days)
    (h : pipeline S C0 init droad kroad croad dt M Dy days p hdr rows = .ok text) :
    ∃ site g wrecs soil s recs out,
      Epw.readHeader hdr = .ok (site, g) ∧ soilOf droad kroad croad g wrecs = .ok soil ∧
      pipelineSim S C0 init droad kroad croad dt M Dy days (24 * days) hdr rows = .ok (s, recs) ∧
      Morphed hdr rows M Dy days p text out recs ∧
      ∀ n, n < 24 * days → ∃ r w fr sa sb t, rows[24 * dayOfYear0 M Dy + n]? = some r ∧
        Weather.rowRec S r = .ok w ∧ forcingOf w = .ok fr ∧ t.recorded = true ∧
        step S (cfgOf C0 site dt) sa t fr (deepAt soil t) = .ok sb ∧
        WrittenAt out (24 * dayOfYear0 M Dy + n) (resOf (Step.record sb t fr)) p := by
  obtain ⟨site, g, wrecs, soil, s, recs, hh, hr, hs, hps, hsim, hm⟩ := pipeline_ok_morph hw.hdr8 h
  obtain ⟨out, recs', s', hsf, hmo⟩ := morph_morphed hv hw hm
  rw [simulateFile_eq (cfgOf C0 site dt) hw.hdr8 hr hs, hsim] at hsf
  cases hsf
  obtain ⟨hlenw, hrows⟩ := read_window_rows hv.date hw.hdr8 hw.fits hr
  have hvalid : Valid ⟨dt, M, Dy, days, wrecs.length⟩ :=
    ⟨hv.date, hv.dvd, hv.pos, hv.inYear, by simp [hlenw]⟩
  obtain ⟨_, hprov⟩ := simulate_prov hvalid hsim
  refine ⟨site, g, wrecs, soil, s, recs, out, hh, hs, hps, hmo, fun n hn => ?_⟩
  -- x, recs[n]? = some x; of `MadeBy`: s0, s1, t, r, t.recorded = true, wrecs[n]? = some r, P.step .. = .ok s1, x = ..
  obtain ⟨_, hrn, sa, sb, t, w, hrec, hwn, hstep, rfl⟩ := hprov n hn
  obtain ⟨r, w', hr', hw', hrw⟩ := hrows n hn
  rw [hwn] at hw'
  cases hw'
  obtain ⟨fr, hf, hst⟩ := stepW_ok hstep
  obtain ⟨x, hx, hwx⟩ := hmo.written n hn
  rw [hrn] at hx
  cases hx
  -- the record block does not read the row it is handed
  exact ⟨r, w, fr, sa, sb, t, hr', hrw, hf, hrec, hst, hwx⟩

end

/-! ## Preservation -/

/-- `morph_preserves` at the concrete pieces. Whenever the pipeline writes a file,
    reading the written text back gives the 8 header rows unchanged followed by data rows `out` with the same
    number of rows and, row by row, the same number of cells as the rural file; `simulate` returned exactly
    `24·days` records; for EVERY hour `n` the cells 6, 7, 8, 21 of data row `24·j₀ + n` are the formatted values
    of record `n`; every other cell of every row is identical to the rural cell. -/
theorem pipeline_preserves (dt M Dy days p : Nat) (hdr rows : List Csv.Row) (text : List Char)
    (hv : ValidRun dt M Dy days) (hw : WellFormed hdr rows M Dy days)
    (h : pipeline S C0 init droad kroad croad dt M Dy days p hdr rows = .ok text) :
    ∃ (out : List Csv.Row) (recs : List Res),
      parseFile text = hdr ++ out ∧ out.length = rows.length ∧
      (∀ i : Nat, (out[i]?).map List.length = (rows[i]?).map List.length) ∧
      (∃ s, pipelineSim S C0 init droad kroad croad dt M Dy days (24 * days) hdr rows = .ok (s, recs)) ∧
      recs.length = 24 * days ∧
      (∀ n, n < 24 * days → ∃ x, recs[n]? = some x ∧ WrittenAt out (24 * dayOfYear0 M Dy + n) x p) ∧
      (∀ i j : Nat, ¬ (24 * dayOfYear0 M Dy ≤ i ∧ i < 24 * dayOfYear0 M Dy + 24 * days ∧ IsWrittenCol j) →
        cellAt out i j = cellAt rows i j) := by
  obtain ⟨_, _, _, _, s, recs, out, _, _, hps, hm, _⟩ := pipeline_anatomy hv hw h
  exact ⟨out, recs, hm.parse, hm.length, hm.widths, ⟨s, hps⟩, hm.count, hm.written, hm.kept⟩

/-! ## The row written for hour `n` -/

/-- Whenever the pipeline writes a file, record `n` is written to data row
    `writeRow M Dy n = 24·j₀ + n`, and - if the rural file carries the conventional hour-ending stamps (row `k` has
    month, day, hour of `stamp k` in columns 1, 2, 3, spelt by any `enc`) - that output row still carries the
    calendar date of the instant `start + n hours` with hour number `hour(start + n h) + 1`. -/
theorem pipeline_row_stamp (dt M Dy days p : Nat) (hdr rows : List Csv.Row) (text : List Char)
    (enc : Nat → Cell) (hv : ValidRun dt M Dy days) (hw : WellFormed hdr rows M Dy days)
    (hst : ∀ k, k < rows.length → cellAt rows k 1 = some (enc (stamp k).1) ∧
      cellAt rows k 2 = some (enc (stamp k).2.1) ∧ cellAt rows k 3 = some (enc (stamp k).2.2))
    (h : pipeline S C0 init droad kroad croad dt M Dy days p hdr rows = .ok text) :
    ∃ (out : List Csv.Row) (recs : List Res), parseFile text = hdr ++ out ∧
      (∃ s, pipelineSim S C0 init droad kroad croad dt M Dy days (24 * days) hdr rows = .ok (s, recs)) ∧
      ∀ n, n < 24 * days → ∃ x, recs[n]? = some x ∧
        writeRow M Dy n = 24 * dayOfYear0 M Dy + n ∧
        WrittenAt out (writeRow M Dy n) x p ∧
        cellAt out (writeRow M Dy n) 1 =
          some (enc (trueCalendar (dayOfYear0 M Dy * 86400 + n * 3600)).month) ∧
        cellAt out (writeRow M Dy n) 2 =
          some (enc (trueCalendar (dayOfYear0 M Dy * 86400 + n * 3600)).day) ∧
        cellAt out (writeRow M Dy n) 3 =
          some (enc ((trueCalendar (dayOfYear0 M Dy * 86400 + n * 3600)).hourDay + 1)) := by
  obtain ⟨_, _, _, _, s, recs, out, _, _, hps, hm, _⟩ := pipeline_anatomy hv hw h
  exact ⟨out, recs, hm.parse, ⟨s, hps⟩, fun n hn => hm.row_stamp hv.date hw.fits enc hst hn⟩

/-! ## The wind column (C02) -/

/-- Whenever the pipeline writes a file, for every hour `n` the wind cell (column 21) of
    data row `24·j₀ + n` is `fmtFixed (max q windMin) p`, where `q` is the NUMBER in the wind cell (column 21) of
    rural row `24·j₀ + n` ITSELF (as `str2fl` reads it) and `windMin` the minimum wind of the configuration: hour
    `n` gets the wind of its own rural row, raised to the minimum wind. No hypothesis on the physics: that the
    recorded wind is `max(row wind, windMin)` is `step_wind_recorded` of the real loop body. -/
theorem pipeline_wind (dt M Dy days p : Nat) (hdr rows : List Csv.Row) (text : List Char)
    (hv : ValidRun dt M Dy days) (hw : WellFormed hdr rows M Dy days)
    (h : pipeline S C0 init droad kroad croad dt M Dy days p hdr rows = .ok text) :
    ∃ out : List Csv.Row, parseFile text = hdr ++ out ∧
      ∀ n, n < 24 * days → ∃ (r : Csv.Row) (c : Cell) (q : ℚ), rows[24 * dayOfYear0 M Dy + n]? = some r ∧
        r[21]? = some c ∧ Weather.str2flCell c = .num q ∧
        cellAt out (24 * dayOfYear0 M Dy + n) 21 = some (fmtFrac (toFrac (max q C0.par.windMin)) p) := by
  obtain ⟨_, _, _, _, _, _, out, _, _, _, hm, hhour⟩ := pipeline_anatomy hv hw h
  refine ⟨out, hm.parse, fun n hn => ?_⟩
  obtain ⟨r, w, fr, _, sb, t, hr, hw', hf, _, hst, hwx⟩ := hhour n hn
  obtain ⟨hwind, _⟩ := step_wind_recorded hst
  obtain ⟨hum, _⟩ := forcingOf_ok hf
  obtain ⟨_, _, _, _, _, _, _, _, _, ⟨c, hc, hcv⟩, _⟩ := Weather.rowRec_ok hw'
  refine ⟨r, c, fr.wind, hr, hc, by rw [hcv, hum], ?_⟩
  rw [hwx.2.2.2]
  have e : (Step.record sb t fr).wind = max fr.wind C0.par.windMin := hwind
  simp only [resOf, e]

/-! ## C09 end to end -/

/-- Whenever the pipeline writes a file, for every hour `n`: let `tC`, `rh`, `pr` be the
    numbers in the dry-bulb, relative-humidity and pressure CELLS (columns 6, 8, 9) of rural row `24·j₀ + n` -
    the row record `n` is written to. The canyon humidity ratio of the pass `sb` behind record `n` is
    `hum_from_rhum_temp(rh, tC, pr)` of THOSE cells (nothing added, nothing lost, no other row involved), and the
    written dry bulb, dew point and relative humidity (cells 6, 7, 8 of the output row) are the formatted
    `T − 273.15`, `Tdp`, `RH` that `psychrometrics` gives for (the canyon temperature `T` of that pass, that
    humidity ratio, that row's pressure `pr`). -/
theorem pipeline_moisture (dt M Dy days p : Nat) (hdr rows : List Csv.Row) (text : List Char)
    (hv : ValidRun dt M Dy days) (hw : WellFormed hdr rows M Dy days)
    (h : pipeline S C0 init droad kroad croad dt M Dy days p hdr rows = .ok text) :
    ∃ out : List Csv.Row, parseFile text = hdr ++ out ∧
      ∀ n, n < 24 * days → ∃ (r : Csv.Row) (c6 c8 c9 : Cell) (tC rh pr hum : ℚ) (sb : State ℚ)
          (ps : PsyOut ℚ),
        rows[24 * dayOfYear0 M Dy + n]? = some r ∧
        r[6]? = some c6 ∧ r[8]? = some c8 ∧ r[9]? = some c9 ∧
        Weather.str2flCell c6 = .num tC ∧ Weather.str2flCell c8 = .num rh ∧ Weather.str2flCell c9 = .num pr ∧
        humFromRh S rh tC pr = .ok hum ∧
        sb.ucm.canHum = hum ∧
        psychro S sb.ucm.canTemp hum pr = .ok ps ∧
        cellAt out (24 * dayOfYear0 M Dy + n) 6 = some (fmtFrac (toFrac (sb.ucm.canTemp - 273.15)) p) ∧
        cellAt out (24 * dayOfYear0 M Dy + n) 7 = some (fmtFrac (toFrac ps.tdp) p) ∧
        cellAt out (24 * dayOfYear0 M Dy + n) 8 = some (fmtFrac (toFrac ps.phi) p) := by
  obtain ⟨_, _, _, _, _, _, out, _, _, _, hm, hhour⟩ := pipeline_anatomy hv hw h
  refine ⟨out, hm.parse, fun n hn => ?_⟩
  obtain ⟨r, w, fr, _, sb, t, hr, hw', hf, hrec, hst, hwx⟩ := hhour n hn
  obtain ⟨_, _, _, _, hhum, hpres, _, _⟩ := forcingOf_ok hf
  obtain ⟨⟨c6, h6, v6⟩, ⟨c8, h8, v8⟩, ⟨c9, h9, v9⟩, _⟩ := Weather.rowRec_values S r w hw'
  have hh := Weather.rowRec_hum S r w hw'
  have hcan := step_canHum_is_rural hst
  obtain ⟨ps, hpsy, _, _, hrecd⟩ := step_record_defined hst hrec
  rw [hhum] at hcan
  rw [hhum, hpres] at hpsy
  rw [hrecd] at hwx
  exact ⟨r, c6, c8, c9, w.temp - 273.15, w.rhum, w.pres, w.hum, sb, ps, hr, h6, h8, h9, v6, v8, v9, hh, hcan,
    hpsy, hwx.1, hwx.2.1, hwx.2.2.1⟩

/-! ## Causality (C03) -/

private theorem getElem?_of_take_eq'' {α : Type} {l l' : List α} {k i : Nat}
    (h : l.take k = l'.take k) (hi : i < k) : l[i]? = l'[i]? :=
  getElem?_of_take_eq h hi

theorem modelled_agree {rows rows' : List Csv.Row} {i : Nat} {r r' : Csv.Row} (hr : rows[i]? = some r)
    (hr' : rows'[i]? = some r') (h : ∀ j ∈ modelledCols, cellAt rows i j = cellAt rows' i j) :
    ∀ j ∈ modelledCols, r[j]? = r'[j]? := by
  intro j hj
  have := h j hj
  unfold cellAt at this
  rw [hr, hr'] at this
  exact this

theorem projD_congr {r r' : Csv.Row} (h : ∀ j ∈ modelledCols, r[j]? = r'[j]?) : projD S r = projD S r' := by
  unfold projD
  -- `modelledCols` unfolds to the list `Weather.rowRec_congr` spells out
  rw [Weather.rowRec_congr S r r' h]

/-- `morph_causal` at the concrete pieces. Two well-formed rural files whose headers are
    interpreted alike (`readHeader` gives the same site and ground data: cells 6..8 of line 1 and line 4,
    `Epw.readHeader_congr`) and state at least three ground depths, and whose window rows `0 … h` agree on the ten
    modelled columns: if the pipeline writes a file for both, the rewritten cells (columns 6, 7, 8, 21) of the
    window rows `0 … h` are the same in the two written files. Whatever the rural rows after hour `h` (or any
    unmodelled cell) contain, it does not reach hour `h`. -/
theorem pipeline_causal (dt M Dy days p : Nat) (hdr hdr' rows rows' : List Csv.Row)
    (text text' : List Char) (h : Nat)
    (hv : ValidRun dt M Dy days) (hw : WellFormed hdr rows M Dy days) (hw' : WellFormed hdr' rows' M Dy days)
    (hh : h < 24 * days)
    (hhdr : Epw.readHeader hdr = Epw.readHeader hdr')
    (h3 : ∀ site g, Epw.readHeader hdr = .ok (site, g) → 3 ≤ g.nSoil)
    (hagree : ∀ n, n ≤ h → ∀ j ∈ modelledCols,
      cellAt rows (24 * dayOfYear0 M Dy + n) j = cellAt rows' (24 * dayOfYear0 M Dy + n) j)
    (hm : pipeline S C0 init droad kroad croad dt M Dy days p hdr rows = .ok text)
    (hm' : pipeline S C0 init droad kroad croad dt M Dy days p hdr' rows' = .ok text') :
    ∃ out out' : List Csv.Row, parseFile text = hdr ++ out ∧ parseFile text' = hdr' ++ out' ∧
      ∀ n j, n ≤ h → IsWrittenCol j →
        cellAt out (24 * dayOfYear0 M Dy + n) j = cellAt out' (24 * dayOfYear0 M Dy + n) j := by
  obtain ⟨site, g, _, _, _, _, hh1, _, _, _, _, hmo⟩ := pipeline_ok_morph hw.hdr8 hm
  obtain ⟨site', g', _, _, _, _, hh1', _, _, _, _, hmo'⟩ := pipeline_ok_morph hw'.hdr8 hm'
  rw [hhdr, hh1'] at hh1
  simp only [Except.ok.injEq, Prod.mk.injEq] at hh1
  obtain ⟨rfl, rfl⟩ := hh1
  have hb : decide (3 ≤ g'.nSoil) = true := decide_eq_true (h3 site' g' (by rw [hhdr, hh1']))
  rw [hb] at hmo hmo'
  refine morph_causal (hv := hv) (hw := hw) (hw' := hw') (hh := hh) (hm := hmo) (hm' := hmo') (hagree := ?_) ..
  refine window_map_take_congr hv.date (projD S) hh fun n hn => ?_
  have hlt : 24 * dayOfYear0 M Dy + n < rows.length := by have := hw.fits; omega
  have hlt' : 24 * dayOfYear0 M Dy + n < rows'.length := by have := hw'.fits; omega
  have hr := List.getElem?_eq_getElem hlt
  have hr' := List.getElem?_eq_getElem hlt'
  rw [hr, hr']
  exact congrArg some (projD_congr S (modelled_agree hr hr' (hagree n hn)))

/-! ## Fail-stop (C10) -/

/-- If the header cannot be interpreted, or the timestep is zero or does not divide one
    hour, or `Weather` raises, or anything in `generate(); simulate()` raises (first wind cell text, refused road
    column, an exception of a pass, a forcing row missing), the pipeline yields NO file - for any file and any
    parameters, no well-formedness needed. -/
theorem pipeline_fail_stop (dt M Dy days p : Nat) (hdr rows : List Csv.Row)
    (hbad : (∃ e, Epw.readHeader hdr = .error e) ∨ ¬ (0 < dt ∧ dt ∣ 3600) ∨
      (∃ e, Weather.read S (hdr ++ rows) (timeInitial M Dy) (timeFinal M Dy days) = .error e) ∨
      (∃ x, pipelineSim S C0 init droad kroad croad dt M Dy days (24 * days) hdr rows = .error x)) :
    ∃ e, pipeline S C0 init droad kroad croad dt M Dy days p hdr rows = .error e := by
  cases hp : pipeline S C0 init droad kroad croad dt M Dy days p hdr rows with
  | error e => exact ⟨e, rfl⟩
  | ok text =>
    exfalso
    obtain ⟨x, hx, _⟩ := pipeline_ok hp
    obtain ⟨site, g, c0, wrecs, soil, hh, hc, hr, _⟩ := pipelineSim_ok hx
    rcases hbad with ⟨e, he⟩ | hdt | ⟨e, he⟩ | ⟨e, he⟩
    · rw [hh] at he
      cases he
    · exact hdt (Clock.create_ok hc)
    · rw [hr] at he
      cases he
    · rw [hx] at he
      cases he

/-- Text (anything `float` refuses, or an empty cell) in the wind-speed, direct,
    diffuse or infrared cell (columns 21, 14, 15, 12) of ANY row of the window never produces a file: under the
    standing hypotheses the pipeline ends in an exception (`TypeError` of the pass that reads the row - or an
    earlier exception), it does not silently substitute a number. -/
theorem pipeline_text_fail_stop (dt M Dy days p : Nat) (hdr rows : List Csv.Row)
    (hv : ValidRun dt M Dy days) (hw : WellFormed hdr rows M Dy days)
    (n : Nat) (hn : n < 24 * days) (r : Csv.Row) (j : Nat) (c : Cell)
    (hr : rows[24 * dayOfYear0 M Dy + n]? = some r) (hj : j = 12 ∨ j = 14 ∨ j = 15 ∨ j = 21)
    (hc : r[j]? = some c) (htext : Weather.str2flCell c = .text) :
    ∃ e, pipeline S C0 init droad kroad croad dt M Dy days p hdr rows = .error e := by
  cases hp : pipeline S C0 init droad kroad croad dt M Dy days p hdr rows with
  | error e => exact ⟨e, rfl⟩
  | ok text =>
    exfalso
    obtain ⟨_, _, _, _, _, _, _, _, _, _, _, hhour⟩ := pipeline_anatomy hv hw hp
    obtain ⟨r', w, fr, _, _, _, hr', hw', hf, _⟩ := hhour n hn
    rw [hr] at hr'
    cases hr'
    obtain ⟨f21, f14, f15, f12, _⟩ := forcingOf_ok hf
    obtain ⟨_, _, _, _, ⟨c12, h12, v12⟩, _, ⟨c14, h14, v14⟩, ⟨c15, h15, v15⟩, _, ⟨c21, h21, v21⟩, _⟩ :=
      Weather.rowRec_ok hw'
    -- the cell is text, the forcing row holds a number for it
    rcases hj with rfl | rfl | rfl | rfl
    · rw [hc] at h12; cases h12; rw [htext, f12] at v12; cases v12
    · rw [hc] at h14; cases h14; rw [htext, f14] at v14; cases v14
    · rw [hc] at h15; cases h15; rw [htext, f15] at v15; cases v15
    · rw [hc] at h21; cases h21; rw [htext, f21] at v21; cases v21

/-! ## C12 end to end: the site -/

/-- The latitude, longitude, time zone and timestep fields of the configuration
    handed in are never used: whatever they hold, the outcome is the same. -/
theorem pipeline_site_param_dead (dt M Dy days hours : Nat) (hdr rows : List Csv.Row) (a b c d : ℚ) :
    pipelineSim S { C0 with lat := a, lon := b, gmt := c, dt := d } init droad kroad croad dt M Dy days hours
      hdr rows = pipelineSim S C0 init droad kroad croad dt M Dy days hours hdr rows := rfl

/-- A `generate(); simulate()` that returns (any number of hours) ran EVERY pass with
    the physics `physW S C` whose configuration `C` carries, as the latitude, longitude and time zone that
    `solarStage` hands to the sun-position routine `solaranglesImpl`, the numeric values of cells 6, 7, 8 of
    line 1 of the rural file - and of nothing else (`pipeline_site_param_dead`). -/
theorem pipeline_site_cells (dt M Dy days hours : Nat) (hdr rows : List Csv.Row) (x : State ℚ × List Res)
    (h : pipelineSim S C0 init droad kroad croad dt M Dy days hours hdr rows = .ok x) :
    ∃ (loc : Csv.Row) (a b c : Cell) (lat lon gmt : ℚ) (g : Epw.Ground) (wrecs : List Weather.Rec)
        (soil : Soil (Deep ℚ)),
      hdr[0]? = some loc ∧ loc[6]? = some a ∧ loc[7]? = some b ∧ loc[8]? = some c ∧
      C06.parseFloat a = some lat ∧ C06.parseFloat b = some lon ∧ C06.parseFloat c = some gmt ∧
      Epw.readHeader hdr = .ok (⟨lat, lon, gmt⟩, g) ∧
      (cfgOf C0 ⟨lat, lon, gmt⟩ dt).lat = lat ∧ (cfgOf C0 ⟨lat, lon, gmt⟩ dt).lon = lon ∧
      (cfgOf C0 ⟨lat, lon, gmt⟩ dt).gmt = gmt ∧
      simulateHours (physW S (cfgOf C0 ⟨lat, lon, gmt⟩ dt)) soil dt M Dy hours wrecs (init wrecs.head?) =
        .ok x := by
  obtain ⟨site, g, _, wrecs, soil, hh, _, _, _, _, hsim⟩ := pipelineSim_ok h
  obtain ⟨loc, gl, h0, _, hs, _⟩ := Epw.readHeader_eq_ok.1 hh
  obtain ⟨a, b, c, ha, hb, hc, pa, pb, pc⟩ := Epw.readSite_ok hs
  obtain ⟨lat, lon, gmt⟩ := site
  exact ⟨loc, a, b, c, lat, lon, gmt, g, wrecs, soil, h0, ha, hb, hc, pa, pb, pc, hh, rfl, rfl, rfl, hsim⟩

/-! ## C20 end to end: the deep temperature -/

/-- For a ground-temperature line laid out as the EPW data dictionary says (label,
    count, per depth: depth, three soil-property cells, twelve monthly cells; anything after), with ANY number
    `≥ 3` of depths, whose count cell reads that number and whose depth and monthly cells are numbers: when the
    road column is accepted with index `i` (`columnOutcome`: the first stated depth that reaches the pavement),
    then `i` is one of the stated depths, the run looks its deep temperatures up by month
    (`soilOf = monthly (tableOf …)`, `deepAt` takes the month before the clock advances), and for every month
    `m = 1..12` the deep temperature is the number in cell `6 + 16·i + (m−1)` of line 4 plus 273.15 and the
    ground-water temperature the number in cell `6 + 16·2 + (m−1)` plus 273.15. -/
theorem pipeline_ground_cells (hdr : List Csv.Row) (label count : Cell) (recs : List Epw.GText)
    (trailing : List Cell) (parsed : List Epw.GRec) (site : Epw.Site) (g : Epw.Ground)
    (wrecs : List Weather.Rec) (ls : List (Lay ℚ)) (i : Nat)
    (hc : Epw.parseInt count = some (recs.length : Int)) (hm : ∀ r ∈ recs, r.months.length = 12)
    (hp : Epw.parseRecs recs = some parsed) (h3 : 3 ≤ recs.length)
    (hg : hdr[3]? = some (Epw.groundLine label count recs trailing))
    (hh : Epw.readHeader hdr = .ok (site, g))
    (hcol : roadColumn droad kroad croad g = .ok ls (some i)) :
    g = ⟨(recs.length : Int), parsed⟩ ∧ i < recs.length ∧
    soilOf droad kroad croad g wrecs = .ok (.monthly (tableOf droad kroad croad g)) ∧
    (∀ t : StepTrace, deepAt (Soil.monthly (tableOf droad kroad croad g)) t =
      tableOf droad kroad croad g t.monthBefore) ∧
    ∀ m, 1 ≤ m → m ≤ 12 → ∃ (ci c2 : Cell) (vi v2 : ℚ),
      (Epw.groundLine label count recs trailing)[6 + 16 * i + (m - 1)]? = some ci ∧
      C06.parseFloat ci = some vi ∧
      (Epw.groundLine label count recs trailing)[6 + 16 * 2 + (m - 1)]? = some c2 ∧
      C06.parseFloat c2 = some v2 ∧
      tableOf droad kroad croad g m = ⟨vi + 27315 / 100, v2 + 27315 / 100⟩ := by
  obtain rfl := readHeader_groundLine hc hm hp hg hh
  have hgr := Epw.readGround_groundLine label count recs trailing parsed hc hm hp
  have hplen : parsed.length = recs.length := Epw.readGround_recs_length hgr
  obtain ⟨gr, hgi⟩ := roadColumn_index hcol
  have hi : i < recs.length := hplen ▸ (List.getElem?_eq_some_iff.1 hgi).1
  have h3' : (3 : Int) ≤ (recs.length : Int) := by omega
  refine ⟨rfl, hi, soilOf_eq_ok.2 ⟨ls, some i, hcol, fun _ => ⟨i, rfl⟩, by rw [if_pos (decide_eq_true h3')]⟩,
    fun t => rfl, ?_⟩
  intro m hm1 hm12
  have cellOf : ∀ k, k < recs.length → ∃ (c : Cell) (v : ℚ),
      (Epw.groundLine label count recs trailing)[6 + 16 * k + (m - 1)]? = some c ∧
      C06.parseFloat c = some v ∧ tsoil ⟨(recs.length : Int), parsed⟩ k m = v + 27315 / 100 := by
    intro k hk
    obtain ⟨c, v, h1, h2, h3⟩ := Epw.readGround_month hgr (i := k) (m := m - 1) (hplen ▸ hk) (by omega)
    exact ⟨c, v, h1, h2, by rw [tsoil, h3]; rfl⟩
  obtain ⟨ci, vi, h1, h2, h3i⟩ := cellOf i hi
  obtain ⟨c2, v2, h4, h5, h6⟩ := cellOf 2 (by omega)
  refine ⟨ci, c2, vi, v2, h1, h2, h4, h5, ?_⟩
  unfold tableOf
  rw [hcol]
  simp only [deepTable, h3i, h6]

/-! ## C03 end to end: what is not modelled influences nothing -/

section
variable {dt M Dy days hours : Nat} {hdr hdr' rows rows' : List Csv.Row}

/-- `Weather` is compared for a readable header only: it also looks at the second cell of line 1, and once the header
    has been read both files have one, since they have a seventh. -/
theorem readers_congr {loc loc' : Csv.Row} (h8 : hdr.length = 8) (h8' : hdr'.length = 8)
    (h0 : hdr[0]? = some loc) (h0' : hdr'[0]? = some loc')
    (h6 : loc[6]? = loc'[6]?) (h7 : loc[7]? = loc'[7]?) (h8c : loc[8]? = loc'[8]?)
    (h4 : hdr[3]? = hdr'[3]?) (hlen : rows.length = rows'.length)
    (hagree : ∀ i, 24 * (Clock.init M Dy).julian ≤ i → i < 24 * (Clock.init M Dy).julian + 24 * days →
      ∀ j ∈ modelledCols, cellAt rows i j = cellAt rows' i j) :
    Epw.readHeader hdr = Epw.readHeader hdr' ∧
    ((∃ sg, Epw.readHeader hdr = .ok sg) →
      Weather.read S (hdr ++ rows) (timeInitial M Dy) (timeFinal M Dy days) =
      Weather.read S (hdr' ++ rows') (timeInitial M Dy) (timeFinal M Dy days)) := by
  obtain ⟨gl, hgl⟩ : ∃ gl, hdr[3]? = some gl := ⟨_, List.getElem?_eq_getElem (by omega)⟩
  refine ⟨Epw.readHeader_congr hdr hdr' loc loc' gl h0 h0' hgl (h4 ▸ hgl) h6 h7 h8c, ?_⟩
  rintro ⟨⟨site, g⟩, hh⟩
  obtain ⟨loc0, _, h00, _, hs, _⟩ := Epw.readHeader_eq_ok.1 hh
  rw [h0] at h00
  cases h00
  obtain ⟨a, _, _, ha, _⟩ := Epw.readSite_ok hs
  have hl : 6 < loc.length := (List.getElem?_eq_some_iff.1 ha).1
  have hl' : 6 < loc'.length := (List.getElem?_eq_some_iff.1 (h6 ▸ ha)).1
  have hd : (hdr ++ rows).head? = some loc := by
    rw [List.head?_eq_getElem?, List.getElem?_append_left (by omega), h0]
  have hd' : (hdr' ++ rows').head? = some loc' := by
    rw [List.head?_eq_getElem?, List.getElem?_append_left (by omega), h0']
  refine Weather.read_congr S hd hd' (by omega) (by omega) ?_
  rw [weather_window_bridge h8, weather_window_bridge h8']
  -- the two windows are the same slice of the two files, which agree there on what `extract` reads
  unfold Sim.window
  simp only [List.map_take, List.map_drop]
  refine take_drop_congr fun n hn => ?_
  rw [List.getElem?_map, List.getElem?_map]
  by_cases hi : 24 * (Clock.init M Dy).julian + n < rows.length
  · have hr := List.getElem?_eq_getElem hi
    have hr' := List.getElem?_eq_getElem (hlen ▸ hi)
    rw [hr, hr']
    exact congrArg some (Weather.extract_congr (modelled_agree hr hr'
      (hagree _ (Nat.le_add_right _ _) (Nat.add_lt_add_left hn _))))
  · rw [List.getElem?_eq_none (by omega), List.getElem?_eq_none (by omega)]

theorem pipelineSim_congr (hh : Epw.readHeader hdr = Epw.readHeader hdr')
    (hr : (∃ sg, Epw.readHeader hdr = .ok sg) →
      Weather.read S (hdr ++ rows) (timeInitial M Dy) (timeFinal M Dy days) =
      Weather.read S (hdr' ++ rows') (timeInitial M Dy) (timeFinal M Dy days)) :
    pipelineSim S C0 init droad kroad croad dt M Dy days hours hdr rows =
    pipelineSim S C0 init droad kroad croad dt M Dy days hours hdr' rows' := by
  unfold pipelineSim
  rw [← hh]
  cases hhd : Epw.readHeader hdr with
  | error e => rfl
  | ok sg => simp only [hr ⟨sg, hhd⟩]

end

/-- Two rural files (8 header lines each, the same number of data rows) that
    agree on cells 6..8 of line 1, on line 4 and - cell by cell - on the ten modelled columns of the window rows
    give the SAME outcome of `generate(); simulate()`: the same final state and records, or the same failing stage
    - for any number of hours. Every other header line, every other cell of line 1, every row outside the window and
    every other column of the window rows influences nothing. (No calendar date is assumed, so the window starts at
    `(Clock.init M Dy).julian`, the day the run itself starts from; for a calendar date that is `dayOfYear0 M Dy`,
    as `pipeline_unmodelled_irrelevant_file` has it.) -/
theorem pipeline_unmodelled_irrelevant (dt M Dy days hours : Nat) (hdr hdr' rows rows' : List Csv.Row)
    (loc loc' : Csv.Row) (h8 : hdr.length = 8) (h8' : hdr'.length = 8)
    (h0 : hdr[0]? = some loc) (h0' : hdr'[0]? = some loc')
    (h6 : loc[6]? = loc'[6]?) (h7 : loc[7]? = loc'[7]?) (h8c : loc[8]? = loc'[8]?)
    (h4 : hdr[3]? = hdr'[3]?) (hlen : rows.length = rows'.length)
    (hagree : ∀ i, 24 * (Clock.init M Dy).julian ≤ i → i < 24 * (Clock.init M Dy).julian + 24 * days →
      ∀ j ∈ modelledCols, cellAt rows i j = cellAt rows' i j) :
    pipelineSim S C0 init droad kroad croad dt M Dy days hours hdr rows =
    pipelineSim S C0 init droad kroad croad dt M Dy days hours hdr' rows' := by
  obtain ⟨hh, hr⟩ := readers_congr S h8 h8' h0 h0' h6 h7 h8c h4 hlen hagree
  exact pipelineSim_congr S C0 init droad kroad croad hh hr

/-- Under the standing hypotheses for both files: two rural files that
    agree on cells 6..8 of line 1, on line 4 and on the ten modelled columns of the window rows - if the pipeline
    writes a file for one it writes a file for the other, each file reads back as its own header followed by rows
    `out` / `out'`, and the two written files differ ONLY where the two rural files differ: wherever the rural
    cells `(i, j)` agree the written cells agree. Every unmodelled header line, column and row is carried through
    verbatim and influences nothing else. -/
theorem pipeline_unmodelled_irrelevant_file (dt M Dy days p : Nat) (hdr hdr' rows rows' : List Csv.Row)
    (loc loc' : Csv.Row) (text : List Char)
    (hv : ValidRun dt M Dy days) (hw : WellFormed hdr rows M Dy days) (hw' : WellFormed hdr' rows' M Dy days)
    (h0 : hdr[0]? = some loc) (h0' : hdr'[0]? = some loc')
    (h6 : loc[6]? = loc'[6]?) (h7 : loc[7]? = loc'[7]?) (h8c : loc[8]? = loc'[8]?)
    (h4 : hdr[3]? = hdr'[3]?) (hlen : rows.length = rows'.length)
    (hagree : ∀ i, 24 * dayOfYear0 M Dy ≤ i → i < 24 * dayOfYear0 M Dy + 24 * days →
      ∀ j ∈ modelledCols, cellAt rows i j = cellAt rows' i j)
    (h : pipeline S C0 init droad kroad croad dt M Dy days p hdr rows = .ok text) :
    ∃ (text' : List Char) (out out' : List Csv.Row),
      pipeline S C0 init droad kroad croad dt M Dy days p hdr' rows' = .ok text' ∧
      parseFile text = hdr ++ out ∧ parseFile text' = hdr' ++ out' ∧
      ∀ i j : Nat, cellAt rows i j = cellAt rows' i j → cellAt out i j = cellAt out' i j := by
  have hj := Clock.init_julian hv.date
  obtain ⟨_, _, _, _, s, recs, out, _, _, hps, hm, _⟩ := pipeline_anatomy hv hw h
  have hsame := pipeline_unmodelled_irrelevant S C0 init droad kroad croad dt M Dy days (24 * days) hdr hdr'
    rows rows' loc loc' hw.hdr8 hw'.hdr8 h0 h0' h6 h7 h8c h4 hlen (by rw [hj]; exact hagree)
  -- the writer succeeds on the second file, with the same records
  obtain ⟨text', out', hwr', hm'⟩ := Morphed.of_write (p := p) hw' hm.count
  refine ⟨text', out, out', ?_, hm.parse, hm'.parse, fun i j => hm.agree hm'⟩
  unfold pipeline pipelineCore
  rw [← hsame, hps, startRow_eq hv.date]
  simp only [hwr']

/-! ## Non-vacuity: a tiny concrete rural file through the whole pipeline (evaluated by the kernel over ℚ)

The small city of `Props/Step.lean` (`exCfg`, `exState`), the shared stub symbols, a rural file of 8 header lines
(LOCATION line with site 1.0 / 104.0 / 8.0, a ground line with three depths, a quoted comment cell) and 24 identical
data rows of 22 cells whose wind-direction cell is EMPTY (text, never read) and whose wind 0.5 lies below the minimum
wind 1 (the RH cell is 11646 because the stub `exp`/`log` make the humidity function numerically meaningless; it
gives a ratio of about 0.015). The kernel can evaluate ONE hour (`pipelineCore … hours = 1`, one pass at
`dt = 3600`): exact rationals of a whole day of passes are out of reach, so `pipeline … = ok` for a full day is
exhibited by the harness in floating point only (C01's end-to-end runs), not here. -/

def exRowCells : Csv.Row :=
  ["1989", "1", "1", "1", "60", "flags", "30.0", "20", "11646", "101325", "0", "0", "400", "0", "500", "150", "0",
   "0", "0", "0", "", "0.5"].map String.toList

def exHdr : List Csv.Row :=
  [["LOCATION", "X", "-", "-", "-", "-", "1.0", "104.0", "8.0", "0"],
   ["D"], ["T"],
   ["GROUND TEMPERATURES", "3", ".5", "", "", "", "26", "26", "26", "26", "26", "26", "26", "26", "26", "26", "26",
    "26", "2", "", "", "", "25.85", "25.85", "25.85", "25.85", "25.85", "25.85", "25.85", "25.85", "25.85", "25.85",
    "25.85", "25.85", "4", "", "", "", "24.85", "24.85", "24.85", "24.85", "24.85", "24.85", "24.85", "24.85",
    "24.85", "24.85", "24.85", "24.85"],
   ["H"], ["C", "a,b"], ["C"], ["P"]].map (·.map String.toList)

def exRows : List Csv.Row := List.replicate 24 exRowCells

/-- The standing hypotheses hold for this file and a one-day run from 1 January at `dt = 3600`. -/
example : ValidRun 3600 1 1 1 ∧ WellFormed exHdr exRows 1 1 1 := by
  refine ⟨⟨by decide, by decide, by decide, by decide, by decide⟩, ⟨by decide, by decide, ?_, ?_, ?_⟩⟩
  · intro i r _ _ hr
    have : r ∈ exRows := List.mem_of_getElem? hr
    rw [List.eq_of_mem_replicate this]
    decide
  · decide +kernel
  · decide +kernel

/-- `generate(); simulate()` for the first hour returns one record; the pavement (0.5 m) reaches the first depth
    (0.5 m): deep temperature = January cell of record 0 + 273.15 = 299.15 K, ground water = January cell of
    record 2 + 273.15 = 298 K; the recorded wind is the minimum wind. -/
example : (match pipelineSim stubQ exCfg (fun _ => exState) (1 / 2) 1 1600000 3600 1 1 1 1 exHdr exRows with
    | .ok (s, recs) => decide (recs.length = 1) && (recs.all fun r => decide (r.wind = ⟨1, 1⟩)) &&
        decide (s.forc.deepTemp = 29915 / 100) && decide (s.forc.waterTemp = 298)
    | .error _ => false) = true := by
  decide +kernel

/-- The whole pipeline for the first hour writes a file of 32 lines that reads back with the wind cell of the
    first window row rewritten to the minimum wind (`1.0`), the next row untouched (`0.5`) and the quoted header
    cell intact. -/
example : ((pipelineCore stubQ exCfg (fun _ => exState) (1 / 2) 1 1600000 3600 1 1 1 1 1 exHdr exRows).toOption.map
    fun t => ((parseFile t).length, cellAt (parseFile t) 8 21, cellAt (parseFile t) 9 21,
      cellAt (parseFile t) 5 1)) =
    some (32, some "1.0".toList, some "0.5".toList, some "a,b".toList) := by
  decide +kernel

/-- Fail-stop on the same file: text in the wind cell of the first row stops `generate()` (`UCMDef`), text in the
    infrared cell stops the first pass, a road below the deepest depth is refused. -/
example :
    (match pipelineSim stubQ exCfg (fun _ => exState) (1 / 2) 1 1600000 3600 1 1 1 1 exHdr
        ((exRowCells.set 21 "x".toList) :: exRows.drop 1) with
      | .error .initWind => true
      | _ => false) = true ∧
    (match pipelineSim stubQ exCfg (fun _ => exState) (1 / 2) 1 1600000 3600 1 1 1 1 exHdr
        ((exRowCells.set 12 [] ) :: exRows.drop 1) with
      | .error (.sim (.phys .type)) => true
      | _ => false) = true ∧
    (match pipelineSim stubQ exCfg (fun _ => exState) 5 1 1600000 3600 1 1 1 1 exHdr exRows with
      | .error (.column .refused) => true
      | _ => false) = true := by
  refine ⟨?_, ?_, ?_⟩ <;> decide +kernel

end Uwg.Pipeline
