/-
C10 — Fail-stop: complete finite results or an exception, never a hang.

Driver-level statements on `Sim.simulate` (any physics), and the zero-load guard. The part of C10 about the
parameter-file reader (it terminates, and raises on a malformed row) is proved on the reader model, in
`Props/C06.lean`.
-/
import UwgVerif.Lemmas.Sim
import UwgVerif.Props.C02
import UwgVerif.Lemmas.WeightedMean
import Mathlib.Tactic.Positivity

namespace Uwg.C10
open Uwg.Sim Uwg.C02
variable {S R D Rec E : Type}

/-- T2a `records_complete_on_return`. Whenever `simulate` returns normally (valid start, window
    inside the year, hour-dividing timestep, enough rural rows), *every one* of the `N = 24·days`
    hourly records exists — never a partial list. -/
theorem records_complete_on_return (P : Phys S R D Rec E) (soil : Soil D) (dt M Dy days : Nat)
    (rows : List R) (s0 s' : S) (recs : List Rec)
    (hv : Valid ⟨dt, M, Dy, days, rows.length⟩)
    (h : simulate P soil dt M Dy days rows s0 = .ok (s', recs)) : recs.length = 24 * days := by
  obtain ⟨tr, htr, _, hlen, _⟩ := records_complete ⟨dt, M, Dy, days, rows.length⟩ hv
  rw [simulate_of_driver_ok htr] at h
  simpa [hlen] using runSteps_ok_length h

/-- T2b `timestep_refused`. A timestep that is zero or does not divide one hour never simulates:
    the run ends with an exception before the first step, with no record stored. -/
theorem timestep_refused (P : Phys S R D Rec E) (soil : Soil D) (dt M Dy days : Nat)
    (rows : List R) (s0 : S) (hbad : ¬ (0 < dt ∧ dt ∣ 3600)) :
    ∃ e, simulate P soil dt M Dy days rows s0 = .error ([], .drv e) := by
  obtain ⟨e, he⟩ := Clock.create_raises M Dy hbad
  exact simulate_of_create_error P soil days rows s0 he

/-- T2c. Under the standing hypotheses the outcome is either a normal return with all `24·days` records or an
    exception. The content is the first disjunct (a return is never partial: T2a); the second holds of any error.
    That the driver does not hang is no part of the statement: it is how the model is built, a total function whose
    loops recurse on the trace and on the step count `nt − 1`. -/
theorem return_or_exception (P : Phys S R D Rec E) (soil : Soil D) (dt M Dy days : Nat)
    (rows : List R) (s0 : S) (hv : Valid ⟨dt, M, Dy, days, rows.length⟩) :
    (∃ s' recs, simulate P soil dt M Dy days rows s0 = .ok (s', recs) ∧ recs.length = 24 * days) ∨
    (∃ recs e, simulate P soil dt M Dy days rows s0 = .error (recs, e)) := by
  cases h : simulate P soil dt M Dy days rows s0 with
  | ok p => exact .inl ⟨p.1, p.2, rfl, records_complete_on_return P soil dt M Dy days rows s0 p.1 p.2 hv h⟩
  | error x => exact .inr ⟨x.1, x.2, rfl⟩

/-- T3 `bounds_on_return`. If the physics step returns only states that passed its validity checks
    (`good`, e.g. 200 K ≤ canyon temperature ≤ 350 K — `UCModel` raises otherwise — and the indoor /
    ceiling window checked by `BEMCalc`), and records of good states are within bounds, then every
    record stored by a run is within bounds: each record is written after *that step's* check. -/
theorem bounds_on_return (P : Phys S R D Rec E) (soil : Soil D) (dt M Dy days : Nat)
    (rows : List R) (s0 : S) (good : S → Prop) (okRec : Rec → Prop)
    (hstep : ∀ s t r d s', P.step s t r d = .ok s' → good s')
    (hrec : ∀ s t r, good s → okRec (P.record s t r)) :
    ∀ x ∈ recordsOf (simulate P soil dt M Dy days rows s0), okRec x := by
  obtain ⟨r, hr⟩ := exists_simulate_eq_finish P soil dt M Dy days rows s0
  rw [hr, recordsOf_finish]
  exact runSteps_records_good hstep hrec (fun _ h => nomatch h)

section
variable {K : Type} [Field K] [LinearOrder K] [IsStrictOrderedRing K]

/-- T4 `zero_load_defined`. For all non-negative light, equipment and occupant loads the radiant
    and latent fractions are defined without dividing by zero: with zero total load both are 0,
    otherwise they are the ratios over the (positive) total. -/
theorem zero_load_defined (light elec qocc nocc rl re lf so : K)
    (hl : 0 ≤ light) (he : 0 ≤ elec) (hq : 0 ≤ qocc) :
    (light + elec + qocc = 0 → loadFractions light elec qocc nocc rl re lf so = (0, 0)) ∧
    (light + elec + qocc ≠ 0 →
      0 < light + elec + qocc ∧
      loadFractions light elec qocc nocc rl re lf so =
        ((rl * light + re * elec) / (light + elec + qocc), lf * so * nocc / (light + elec + qocc))) := by
  constructor
  · intro h0
    simp [loadFractions, h0]
  · intro hne
    have hpos : 0 < light + elec + qocc := lt_of_le_of_ne (by positivity) (Ne.symm hne)
    exact ⟨hpos, by simp [loadFractions, hpos]⟩

/-- With radiant fractions in [0, 1] the radiant share of the internal heat stays in [0, 1]
    (so the zero-load value 0 is consistent with the non-zero case). -/
theorem load_fraction_bounds (light elec qocc nocc rl re lf so : K)
    (hl : 0 ≤ light) (he : 0 ≤ elec) (hq : 0 ≤ qocc)
    (hrl : 0 ≤ rl ∧ rl ≤ 1) (hre : 0 ≤ re ∧ re ≤ 1) :
    0 ≤ (loadFractions light elec qocc nocc rl re lf so).1 ∧
    (loadFractions light elec qocc nocc rl re lf so).1 ≤ 1 := by
  unfold loadFractions
  simp only
  split
  · rename_i hpos
    -- a weighted mean of `rl`, `re` and (for the occupants' share) `0`, all in `[0, 1]`
    have hb : Between 0 1 (rl * light + re * elec + 0 * qocc) (light + elec + qocc) :=
      ((Between.single hl hrl).add (Between.single he hre)).add (Between.single hq ⟨le_rfl, zero_le_one⟩)
    rw [zero_mul, add_zero] at hb
    exact hb.div hpos
  · exact ⟨le_rfl, zero_le_one⟩

end

/-- Non-vacuity: an accepted configuration, and a refused timestep. -/
example : Valid ⟨300, 12, 30, 2, 48⟩ :=
  { date := by decide, dvd := ⟨12, by decide⟩, pos := by decide, inYear := by decide, rows := by decide }
example : ¬ (0 < 480 ∧ 480 ∣ 3600) := by decide

end Uwg.C10
