/-
Composition E - `generate()` as one Lean function (`Model/Generate.lean`), closing composition D.

`uwgMain S P stock zm p hdr rows` is the whole program `parameters + rural file ↦ morphed file`:
`generate(); simulate(); write_epw()` with NOTHING about the configuration or the initial objects handed in - they
are the two components of `generateState` evaluated on the header and the first window row of the file itself.

Part 1 - the program is composition D's `pipeline` on the objects `generate()` built (`generate_pipeline`,
  `uwgMain_stages`, `uwgMain_no_spurious_stage`), and the statements of `Props/Pipeline.lean` transferred to `uwgMain`.
  Hypotheses: `ValidRun` of the run parameters and `WellFormed` of the FILE (composition A's standing hypotheses) -
  nothing about the physics, the configuration or the state.
Part 2 - what `generate()` hands on, at the concrete level: C17 (no history, dead parameters), C12 (site), C02 (minimum
  wind), C18 (season), C16 (grid, levels, profiles of the rural column), C13 / C07 / C08 (canyon averages), C20 (road
  column), C10 (fail-stop order), the initial state, `_hvac_autosize`, the stock selection in front (`uwgMainLib`).

What the theorems still quantify over (= the arguments of the model): the libm symbols `S`, the stock `stock` as
`_compute_BEM` delivers it (`uwgMainLib` composes the tied selection model `Bem.generateBEM` in front, given the
payload of every archetype of the library), the numbers `zm` of `z_meso.txt`. Explicit model limits: `dtweather =
3600` (`MainErr.dtweather` otherwise), `RSM.nzfor ≠ None` (`⟨nzfor, rsm⟩` otherwise).
-/
import UwgVerif.Lemmas.Generate
import UwgVerif.Props.Pipeline
import UwgVerif.Props.C16Coef
import UwgVerif.Props.C08

namespace Uwg.Gen
open Uwg.Csv Uwg.Step Uwg.C01 Uwg.Morph Uwg.Pipeline

variable (S : Sym ℚ) (P : GenParams) (stock : Stock) (zm : List ℚ)

/-! ## Part 1 - closing the pipeline -/

/-- Whenever the header is readable, the weather timestep is one hour, `Weather` returns
    and `generateState` - on the site and ground data of THAT header, the first station record of THAT window, the
    parameters, the stock and `z_meso` - returns `(C0, s0)`, the whole program is composition D's `pipeline` with
    `C0` / `init` := these two components: nothing is left to hand in. -/
theorem generate_pipeline (p : Nat) (hdr rows : List Csv.Row) (site : Epw.Site) (g : Epw.Ground)
    (recs : List Weather.Rec) (C0 : Cfg ℚ) (s0 : State ℚ)
    (hh : Epw.readHeader hdr = .ok (site, g)) (hd : P.dtweather = 3600)
    (hr : Weather.read S (hdr ++ rows) (timeInitial P.month P.day) (timeFinal P.month P.day P.nday) = .ok recs)
    (hg : generateState S P stock site g recs.head? zm = .ok (C0, s0)) :
    uwgMain S P stock zm p hdr rows =
      (Pipeline.pipeline S C0 (fun _ => s0) P.droad P.kroad P.croad P.dtsim P.month P.day P.nday p hdr
        rows).mapError MainErr.pipe := by
  obtain ⟨x, hx, rfl, rfl⟩ := generateState_eq_ok.1 hg
  have hf : generateFile S P stock zm hdr rows = .ok x := generateFile_eq_ok.2 ⟨site, g, recs, hh, hd, hr, hx⟩
  unfold uwgMain
  rw [hf]
  dsimp only
  cases Pipeline.pipeline S x.cfg (fun _ => x.state) P.droad P.kroad P.croad P.dtsim P.month P.day P.nday p hdr
    rows <;> rfl

/-- A run of the whole program that writes a file went through: header read, `Weather`
    returned, `generateState` returned `(C, s)` on the header's site / ground data and the first station record,
    and `pipeline` with exactly these wrote the file. -/
theorem uwgMain_stages {p : Nat} {hdr rows : List Csv.Row} {text : List Char}
    (h : uwgMain S P stock zm p hdr rows = .ok text) :
    ∃ site g recs C s, Epw.readHeader hdr = .ok (site, g) ∧ P.dtweather = 3600 ∧
      Weather.read S (hdr ++ rows) (timeInitial P.month P.day) (timeFinal P.month P.day P.nday) = .ok recs ∧
      generateState S P stock site g recs.head? zm = .ok (C, s) ∧
      Pipeline.pipeline S C (fun _ => s) P.droad P.kroad P.croad P.dtsim P.month P.day P.nday p hdr rows =
        .ok text := by
  obtain ⟨x, hf, hp⟩ := uwgMain_ok h
  obtain ⟨site, g, recs, hh, hd, hr, hg⟩ := generateFile_eq_ok.1 hf
  exact ⟨site, g, recs, x.cfg, x.state, hh, hd, hr, generateState_eq_ok.2 ⟨x, hg, rfl, rfl⟩, hp⟩

/-- After `generateState` returned on the header and window of the file, the
    two stages of composition D that repeat work of `generate()` cannot stop the run: the first wind cell is a number
    (`initWindText = false`), the road column is accepted and - with at least three depths - carries an index
    (`soilOf` returns), and overwriting the site and timestep of the configuration with those of the header and the
    run (`cfgOf`) changes nothing. -/
theorem uwgMain_no_spurious_stage {hdr : List Csv.Row} {site : Epw.Site} {g : Epw.Ground} {recs : List Weather.Rec}
    {C : Cfg ℚ} {s : State ℚ} (hh : Epw.readHeader hdr = .ok (site, g))
    (hg : generateState S P stock site g recs.head? zm = .ok (C, s)) :
    initWindText recs = false ∧ (∃ soil, soilOf P.droad P.kroad P.croad g recs = .ok soil) ∧
    cfgOf C site P.dtsim = C := by
  obtain ⟨q, a, rfl, rfl⟩ := generateState_ok hg
  refine ⟨?_, ⟨_, soilOf_eq_ok.2 ⟨_, _, a.column, fun h3 => ?_, rfl⟩⟩, rfl⟩
  · unfold initWindText
    rw [a.first_eq]
    simp only [a.wind]
  · exact roadColumn_idx_isSome a.column (by rw [Epw.readHeader_recs_length hh]; omega)

/-! ### transfer of the theorems of composition D -/

/-- `pipeline_preserves` for the whole program. Whenever the program writes a file, reading the text back
    gives the 8 header rows unchanged followed by data rows `out` with the same number of rows and, row by row, the
    same number of cells as the rural file; for EVERY hour `n` of the run cells 6, 7, 8, 21 of data row `24·j₀ + n`
    are the formatted values of one record `x` (`recs` has exactly `24·days` of them); every other cell of every
    row is identical to the rural cell. -/
theorem uwgMain_preserves (p : Nat) (hdr rows : List Csv.Row) (text : List Char)
    (hv : ValidRun P.dtsim P.month P.day P.nday) (hw : WellFormed hdr rows P.month P.day P.nday)
    (h : uwgMain S P stock zm p hdr rows = .ok text) :
    ∃ (out : List Csv.Row) (recs : List Res),
      parseFile text = hdr ++ out ∧ out.length = rows.length ∧
      (∀ i : Nat, (out[i]?).map List.length = (rows[i]?).map List.length) ∧
      recs.length = 24 * P.nday ∧
      (∀ n, n < 24 * P.nday → ∃ x, recs[n]? = some x ∧ WrittenAt out (24 * dayOfYear0 P.month P.day + n) x p) ∧
      (∀ i j : Nat, ¬ (24 * dayOfYear0 P.month P.day ≤ i ∧ i < 24 * dayOfYear0 P.month P.day + 24 * P.nday ∧
        IsWrittenCol j) → cellAt out i j = cellAt rows i j) := by
  obtain ⟨x, _, hp⟩ := uwgMain_ok h
  obtain ⟨out, recs, h1, h2, h3, _, h5, h6, h7⟩ := pipeline_preserves (hv := hv) (hw := hw) (h := hp) ..
  exact ⟨out, recs, h1, h2, h3, h5, h6, h7⟩

/-- `pipeline_row_stamp` for the whole program. If the rural file carries the conventional hour-ending
    stamps, the row written for hour `n` still carries the calendar date of `start + n hours`. -/
theorem uwgMain_row_stamp (p : Nat) (hdr rows : List Csv.Row) (text : List Char) (enc : Nat → Cell)
    (hv : ValidRun P.dtsim P.month P.day P.nday) (hw : WellFormed hdr rows P.month P.day P.nday)
    (hst : ∀ k, k < rows.length → cellAt rows k 1 = some (enc (stamp k).1) ∧
      cellAt rows k 2 = some (enc (stamp k).2.1) ∧ cellAt rows k 3 = some (enc (stamp k).2.2))
    (h : uwgMain S P stock zm p hdr rows = .ok text) :
    ∃ (out : List Csv.Row) (recs : List Res), parseFile text = hdr ++ out ∧
      ∀ n, n < 24 * P.nday → ∃ x, recs[n]? = some x ∧
        writeRow P.month P.day n = 24 * dayOfYear0 P.month P.day + n ∧
        WrittenAt out (writeRow P.month P.day n) x p ∧
        cellAt out (writeRow P.month P.day n) 1 =
          some (enc (trueCalendar (dayOfYear0 P.month P.day * 86400 + n * 3600)).month) ∧
        cellAt out (writeRow P.month P.day n) 2 =
          some (enc (trueCalendar (dayOfYear0 P.month P.day * 86400 + n * 3600)).day) ∧
        cellAt out (writeRow P.month P.day n) 3 =
          some (enc ((trueCalendar (dayOfYear0 P.month P.day * 86400 + n * 3600)).hourDay + 1)) := by
  obtain ⟨x, _, hp⟩ := uwgMain_ok h
  obtain ⟨out, recs, h1, _, h3⟩ := pipeline_row_stamp (hv := hv) (hw := hw) (hst := hst) (h := hp) ..
  exact ⟨out, recs, h1, h3⟩

/-- `pipeline_wind` with `generate_windmin_handed_on` for the whole program. Whenever the program writes a file, for
    every hour `n` the wind cell (column 21) of data row `24·j₀ + n` is `fmtFixed (max q windmin) p`, where `q` is the
    NUMBER in the wind cell of rural row `24·j₀ + n` itself and `windmin` the PARAMETER - unscaled. -/
theorem uwgMain_wind (p : Nat) (hdr rows : List Csv.Row) (text : List Char)
    (hv : ValidRun P.dtsim P.month P.day P.nday) (hw : WellFormed hdr rows P.month P.day P.nday)
    (h : uwgMain S P stock zm p hdr rows = .ok text) :
    ∃ out : List Csv.Row, parseFile text = hdr ++ out ∧
      ∀ n, n < 24 * P.nday → ∃ (r : Csv.Row) (c : Cell) (q : ℚ),
        rows[24 * dayOfYear0 P.month P.day + n]? = some r ∧ r[21]? = some c ∧ Weather.str2flCell c = .num q ∧
        cellAt out (24 * dayOfYear0 P.month P.day + n) 21 = some (fmtFrac (toFrac (max q P.windmin)) p) := by
  obtain ⟨site, g, recs, C, s, _, _, _, hg, hp⟩ := uwgMain_stages S P stock zm h
  obtain ⟨q, _, rfl, rfl⟩ := generateState_ok hg
  -- the minimum wind of the configuration `cfgOfParts` builds is `P.windmin` by definition
  exact pipeline_wind (C0 := cfgOfParts S P stock site q) (hv := hv) (hw := hw) (h := hp) ..

/-- `pipeline_moisture` for the whole program. Whenever the program writes a file, for every hour `n` the
    canyon humidity ratio behind record `n` is `hum_from_rhum_temp` of the RH / dry-bulb / pressure CELLS of rural row
    `24·j₀ + n`, and the written dry bulb, dew point and relative humidity are the formatted `T − 273.15`, `Tdp`, `RH`
    that `psychrometrics` gives for (canyon temperature of that pass, that ratio, that row's pressure). -/
theorem uwgMain_moisture (p : Nat) (hdr rows : List Csv.Row) (text : List Char)
    (hv : ValidRun P.dtsim P.month P.day P.nday) (hw : WellFormed hdr rows P.month P.day P.nday)
    (h : uwgMain S P stock zm p hdr rows = .ok text) :
    ∃ out : List Csv.Row, parseFile text = hdr ++ out ∧
      ∀ n, n < 24 * P.nday → ∃ (r : Csv.Row) (c6 c8 c9 : Cell) (tC rh pr hum : ℚ) (sb : State ℚ) (ps : PsyOut ℚ),
        rows[24 * dayOfYear0 P.month P.day + n]? = some r ∧
        r[6]? = some c6 ∧ r[8]? = some c8 ∧ r[9]? = some c9 ∧
        Weather.str2flCell c6 = .num tC ∧ Weather.str2flCell c8 = .num rh ∧ Weather.str2flCell c9 = .num pr ∧
        humFromRh S rh tC pr = .ok hum ∧ sb.ucm.canHum = hum ∧
        psychro S sb.ucm.canTemp hum pr = .ok ps ∧
        cellAt out (24 * dayOfYear0 P.month P.day + n) 6 = some (fmtFrac (toFrac (sb.ucm.canTemp - 273.15)) p) ∧
        cellAt out (24 * dayOfYear0 P.month P.day + n) 7 = some (fmtFrac (toFrac ps.tdp) p) ∧
        cellAt out (24 * dayOfYear0 P.month P.day + n) 8 = some (fmtFrac (toFrac ps.phi) p) := by
  obtain ⟨x, _, hp⟩ := uwgMain_ok h
  exact pipeline_moisture (hv := hv) (hw := hw) (h := hp) ..

/-- C10. If `generate()` raises at any stage (header, `SimParam`, `Weather`, a
    constructor, the refused road column, …) or `generate(); simulate()` raises afterwards, the program yields NO
    file - for any file and any parameters. -/
theorem uwgMain_fail_stop (p : Nat) (hdr rows : List Csv.Row)
    (hbad : (∃ e, generateFile S P stock zm hdr rows = .error e) ∨
      (∃ x e, generateFile S P stock zm hdr rows = .ok x ∧
        pipelineSim S x.cfg (fun _ => x.state) P.droad P.kroad P.croad P.dtsim P.month P.day P.nday (24 * P.nday)
          hdr rows = .error e)) :
    ∃ e, uwgMain S P stock zm p hdr rows = .error e := by
  rcases hbad with ⟨e, he⟩ | ⟨x, e, hx, he⟩
  · exact ⟨e, by unfold uwgMain; rw [he]⟩
  · obtain ⟨e', he'⟩ := pipeline_fail_stop (p := p) (hbad := Or.inr (Or.inr (Or.inr ⟨e, he⟩))) ..
    exact ⟨.pipe e', by unfold uwgMain; rw [hx]; dsimp only; rw [he']⟩

/-- C12 end to end. Whenever the program writes a file, the latitude, longitude and time
    zone of the configuration `generate()` built - every pass runs with it, `cfgOf` changes nothing
    (`uwgMain_no_spurious_stage`) - are the numeric values of cells 6, 7, 8 of line 1 of the rural file - no parameter
    enters. -/
theorem uwgMain_site_cells {p : Nat} {hdr rows : List Csv.Row} {text : List Char}
    (h : uwgMain S P stock zm p hdr rows = .ok text) :
    ∃ (loc : Csv.Row) (a b c : Cell) (lat lon gmt : ℚ) (x : Objects),
      hdr[0]? = some loc ∧ loc[6]? = some a ∧ loc[7]? = some b ∧ loc[8]? = some c ∧
      C06.parseFloat a = some lat ∧ C06.parseFloat b = some lon ∧ C06.parseFloat c = some gmt ∧
      generateFile S P stock zm hdr rows = .ok x ∧ x.cfg.lat = lat ∧ x.cfg.lon = lon ∧ x.cfg.gmt = gmt := by
  obtain ⟨x, hf, _⟩ := uwgMain_ok h
  obtain ⟨site, g, recs, hh, _, _, hg⟩ := generateFile_eq_ok.1 hf
  obtain ⟨q, _, hc, _, _⟩ := generateFull_ok hg
  obtain ⟨loc, gl, h0, _, hs, _⟩ := Epw.readHeader_eq_ok.1 hh
  obtain ⟨a, b, c, ha, hb, hc', pa, pb, pc⟩ := Epw.readSite_ok hs
  exact ⟨loc, a, b, c, _, _, _, x, h0, ha, hb, hc', pa, pb, pc, hf, by rw [hc]; rfl, by rw [hc]; rfl,
    by rw [hc]; rfl⟩

/-- `pipeline_causal` for the whole program (C03). Two well-formed rural files whose headers are interpreted alike
    and state at least three ground depths, and whose window rows `0 … h` agree on the ten modelled columns: if the
    program writes a file for both (same parameters, stock, `z_meso`), the rewritten cells of the window rows `0 … h`
    are the same in the two written files. The initial objects `generate()` builds are THE SAME for both files (they
    depend on the header and on window row 0 only) - this is part of the proof, not a hypothesis. -/
theorem uwgMain_causal (p : Nat) (hdr hdr' rows rows' : List Csv.Row) (text text' : List Char) (h : Nat)
    (hv : ValidRun P.dtsim P.month P.day P.nday) (hw : WellFormed hdr rows P.month P.day P.nday)
    (hw' : WellFormed hdr' rows' P.month P.day P.nday) (hh : h < 24 * P.nday)
    (hhdr : Epw.readHeader hdr = Epw.readHeader hdr')
    (h3 : ∀ site g, Epw.readHeader hdr = .ok (site, g) → 3 ≤ g.nSoil)
    (hagree : ∀ n, n ≤ h → ∀ j ∈ modelledCols,
      cellAt rows (24 * dayOfYear0 P.month P.day + n) j = cellAt rows' (24 * dayOfYear0 P.month P.day + n) j)
    (hm : uwgMain S P stock zm p hdr rows = .ok text) (hm' : uwgMain S P stock zm p hdr' rows' = .ok text') :
    ∃ out out' : List Csv.Row, parseFile text = hdr ++ out ∧ parseFile text' = hdr' ++ out' ∧
      ∀ n j, n ≤ h → IsWrittenCol j →
        cellAt out (24 * dayOfYear0 P.month P.day + n) j = cellAt out' (24 * dayOfYear0 P.month P.day + n) j := by
  obtain ⟨site, g, recs, C, s, hh1, _, hr, hg, hp⟩ := uwgMain_stages S P stock zm hm
  obtain ⟨site', g', recs', C', s', hh1', _, hr', hg', hp'⟩ := uwgMain_stages S P stock zm hm'
  rw [hhdr, hh1'] at hh1
  simp only [Except.ok.injEq, Prod.mk.injEq] at hh1
  obtain ⟨rfl, rfl⟩ := hh1
  have h0 : 0 < 24 * P.nday := Nat.mul_pos (by decide) hv.days_pos
  obtain ⟨r, w, hr0, hw0, hrec⟩ := (read_window_rows hv.date hw.hdr8 hw.fits hr).2 0 h0
  obtain ⟨r', w', hr0', hw0', hrec'⟩ := (read_window_rows hv.date hw'.hdr8 hw'.fits hr').2 0 h0
  -- the two first window rows agree on the modelled cells, so `generate()` built the same objects
  rw [Weather.rowRec_congr S r r' (modelled_agree hr0 hr0' (hagree 0 (Nat.zero_le _))), hrec'] at hrec
  cases hrec
  rw [List.head?_eq_getElem?, hw0, ← hw0', ← List.head?_eq_getElem?, hg'] at hg
  simp only [Except.ok.injEq, Prod.mk.injEq] at hg
  obtain ⟨rfl, rfl⟩ := hg
  exact pipeline_causal (hv := hv) (hw := hw) (hw' := hw') (hh := hh) (hhdr := hhdr) (h3 := h3) (hagree := hagree)
    (hm := hp) (hm' := hp') ..

theorem generateFile_congr {hdr hdr' rows rows' : List Csv.Row} (hh : Epw.readHeader hdr = Epw.readHeader hdr')
    (hr : (∃ sg, Epw.readHeader hdr = .ok sg) →
      Weather.read S (hdr ++ rows) (timeInitial P.month P.day) (timeFinal P.month P.day P.nday) =
      Weather.read S (hdr' ++ rows') (timeInitial P.month P.day) (timeFinal P.month P.day P.nday)) :
    generateFile S P stock zm hdr rows = generateFile S P stock zm hdr' rows' := by
  unfold generateFile
  rw [← hh]
  cases hhd : Epw.readHeader hdr with
  | error e => rfl
  | ok sg => simp only [hr ⟨sg, hhd⟩]

/-- `pipeline_unmodelled_irrelevant_file` for the whole program (C03). Under the standing
    hypotheses for both files: two rural files that agree on cells 6..8 of line 1, on line 4 and on the ten modelled
    columns of the window rows - `generate()` builds the same objects for both; if the program writes a file for one
    it writes a file for the other, and the two written files differ ONLY where the two rural files differ. -/
theorem uwgMain_unmodelled_irrelevant (p : Nat) (hdr hdr' rows rows' : List Csv.Row) (loc loc' : Csv.Row)
    (text : List Char) (hv : ValidRun P.dtsim P.month P.day P.nday)
    (hw : WellFormed hdr rows P.month P.day P.nday) (hw' : WellFormed hdr' rows' P.month P.day P.nday)
    (h0 : hdr[0]? = some loc) (h0' : hdr'[0]? = some loc')
    (h6 : loc[6]? = loc'[6]?) (h7 : loc[7]? = loc'[7]?) (h8c : loc[8]? = loc'[8]?)
    (h4 : hdr[3]? = hdr'[3]?) (hlen : rows.length = rows'.length)
    (hagree : ∀ i, 24 * dayOfYear0 P.month P.day ≤ i → i < 24 * dayOfYear0 P.month P.day + 24 * P.nday →
      ∀ j ∈ modelledCols, cellAt rows i j = cellAt rows' i j)
    (h : uwgMain S P stock zm p hdr rows = .ok text) :
    generateFile S P stock zm hdr rows = generateFile S P stock zm hdr' rows' ∧
    ∃ (text' : List Char) (out out' : List Csv.Row),
      uwgMain S P stock zm p hdr' rows' = .ok text' ∧
      parseFile text = hdr ++ out ∧ parseFile text' = hdr' ++ out' ∧
      ∀ i j : Nat, cellAt rows i j = cellAt rows' i j → cellAt out i j = cellAt out' i j := by
  obtain ⟨x, hf, hp⟩ := uwgMain_ok h
  obtain ⟨text', out, out', hp', h1, h2, h3⟩ :=
    pipeline_unmodelled_irrelevant_file (hv := hv) (hw := hw) (hw' := hw') (h0 := h0) (h0' := h0') (h6 := h6)
      (h7 := h7) (h8c := h8c) (h4 := h4) (hlen := hlen) (hagree := hagree) (h := hp) ..
  rw [← Clock.init_julian hv.date] at hagree
  obtain ⟨hh, hr⟩ := readers_congr S hw.hdr8 hw'.hdr8 h0 h0' h6 h7 h8c h4 hlen hagree
  have hgf := generateFile_congr S P stock zm hh hr
  refine ⟨hgf, text', out, out', ?_, h1, h2, h3⟩
  unfold uwgMain
  rw [← hgf, hf]
  simp only [hp']

/-! ## Part 2 - what `generate()` hands on -/

/-- C17. The parameters `radfocc`, `maxnight` (`geoParam.nightThreshold`) and `h_temp`
    (`geoParam.tempHeight`, used for `RSM.nz0` only) are DEAD at this stage: no statement of `_compute_input` hands
    them on to anything a pass reads or assigns - whatever they hold, configuration and state are the same. (The
    stock parameters `zone`, `bld` and the six overrides enter through `_compute_BEM` only; `epw_precision`,
    the output path and the reference-data vectors are not arguments at all.) -/
theorem generate_dead_params (site : Epw.Site) (g : Epw.Ground) (first : Option Weather.Rec) (a b c : ℚ) :
    generateState S { P with radfocc := a, maxnight := b, h_temp := c } stock site g first zm =
      generateState S P stock site g first zm := rfl

/-- `P'` differs from `P` at most in the three dead parameters -/
def LiveEq (P P' : GenParams) : Prop :=
  { P' with radfocc := P.radfocc, maxnight := P.maxnight, h_temp := P.h_temp } = P

/-- C17 at the concrete level. Two parameter sets that differ only in the three
    parameters `generate()` does not hand on (`LiveEq`) give the same configuration and state: `generate_dead_params`
    in the form "equal live parameters, equal outcome". That nothing else - no earlier state of the object - enters is
    not this statement but the shape of the model: `generateState` is a function of the parameters, the stock as
    `_compute_BEM` delivers it, site and ground data of the header, the first station record, the `z_meso` levels
    and the libm symbols, and has no other argument a history could enter through. -/
theorem generate_history_free (P' : GenParams) (site : Epw.Site) (g : Epw.Ground) (first : Option Weather.Rec)
    (h : LiveEq P P') :
    generateState S P' stock site g first zm = generateState S P stock site g first zm := by
  rw [← generate_dead_params S P' stock zm site g first P.radfocc P.maxnight P.h_temp]
  unfold LiveEq at h
  rw [h]

/-- The configuration does not depend on the station record: whatever the first
    window row holds, a returning `generate()` builds the same configuration (so `C0` of composition D is a
    function of the parameter file, the stock, the header and `z_meso` alone; only `init` sees the weather). -/
theorem generate_cfg_record_free (site : Epw.Site) (g : Epw.Ground) (first first' : Option Weather.Rec)
    (C C' : Cfg ℚ) (s s' : State ℚ) (h : generateState S P stock site g first zm = .ok (C, s))
    (h' : generateState S P stock site g first' zm = .ok (C', s')) : C = C' := by
  obtain ⟨q, a, rfl, _⟩ := generateState_ok h
  obtain ⟨q', b, rfl, _⟩ := generateState_ok h'
  -- every part the configuration is made of is a function of the arguments other than the record
  have eu : q.ubl = q'.ubl := Except.ok.inj (a.ubl.symm.trans b.ubl)
  have eg : q.ucm.geom = q'.ucm.geom := Except.ok.inj (a.geom.symm.trans b.geom)
  have enz : q.rsm.nzref = q'.rsm.nzref := Option.some.inj (a.nzref.symm.trans b.nzref)
  have en : q.nzfor = q'.nzfor := Option.some.inj (a.nzfor.symm.trans b.nzfor)
  unfold cfgOfParts
  rw [a.z, a.dz, a.z0r, a.disp, a.z0u, a.lDisp, b.z, b.dz, b.z0r, b.disp, b.z0u, b.lDisp, eu, eg, enz, en]

/-- C12. The site of the configuration is the site `_read_epw` read from the
    header (`Epw.readHeader`: cells 6..8 of line 1, `uwgMain_site_cells`); no parameter enters. -/
theorem generate_site_from_header (site : Epw.Site) (g : Epw.Ground) (first : Option Weather.Rec)
    (C : Cfg ℚ) (s : State ℚ) (h : generateState S P stock site g first zm = .ok (C, s)) :
    C.lat = site.lat ∧ C.lon = site.lon ∧ C.gmt = site.gmt ∧ C.dt = (P.dtsim : ℚ) := by
  obtain ⟨q, _, rfl, _⟩ := generateState_ok h
  exact ⟨rfl, rfl, rfl, rfl⟩

/-- C02. `geoParam.windMin` - the minimum wind every pass raises the rural wind
    to - IS the parameter `windmin`: no rescaling, no unit conversion; and the canyon's initial `ublWind` is
    `max(first wind cell, windmin)`. -/
theorem generate_windmin_handed_on (site : Epw.Site) (g : Epw.Ground) (first : Option Weather.Rec) (x : Objects)
    (h : generateFull S P stock site g first zm = .ok x) :
    x.cfg.par.windMin = P.windmin ∧ x.extra.geo.windMin = P.windmin ∧
    ∃ w wind, first = some w ∧ w.umod = .num wind ∧ x.extra.ublWind = max wind P.windmin ∧
      x.state.ucm.canWind = wind := by
  obtain ⟨q, a, hc, hs, he⟩ := generateFull_ok h
  exact ⟨by rw [hc]; rfl, by rw [he]; rfl, q.w, q.ucm.canWind, a.first_eq, a.wind, by rw [he]; exact a.ublWind,
    by rw [hs]; rfl⟩

/-- C18. The vegetation season of `geoParam` is the configured pair of months -
    for EVERY site, i.e. whatever the latitude (no hemisphere swap, no clamping). -/
theorem generate_season_handed_on (site : Epw.Site) (g : Epw.Ground) (first : Option Weather.Rec)
    (C : Cfg ℚ) (s : State ℚ) (h : generateState S P stock site g first zm = .ok (C, s)) :
    C.par.vegStart = P.vegstart ∧ C.par.vegEnd = P.vegend ∧ C.par.vegAlbedo = P.albveg ∧
    C.par.treeFLat = P.lattree ∧ C.par.grassFLat = P.latgrss := by
  obtain ⟨q, _, rfl, _⟩ := generateState_ok h
  exact ⟨rfl, rfl, rfl, rfl, rfl⟩

/-- What the level search of `RSMDef.__init__` returns: `n` is the number of the first level
    at (within 1e-10) or above `h`; `None` exactly when no level is. -/
theorem level_spec (z : List ℚ) (h : ℚ) :
    (∀ n, level z h = some n ↔ ∃ x, 1 ≤ n ∧ z[n - 1]? = some x ∧ AtOrAbove h x ∧
      ∀ j y, j < n - 1 → z[j]? = some y → ¬ AtOrAbove h y) ∧
    (level z h = none ↔ ∀ x ∈ z, ¬ AtOrAbove h x) := by
  unfold level
  rw [levelFrom_eq]
  constructor
  · intro n
    simp only [Option.map_eq_some_iff, List.findIdx?_eq_some_iff_getElem, decide_eq_true_eq]
    constructor
    · rintro ⟨k, ⟨hk, hat, hb⟩, rfl⟩
      refine ⟨z[k], by omega, List.getElem?_eq_getElem hk, hat, fun j y hj hy => ?_⟩
      obtain ⟨hj', rfl⟩ := List.getElem?_eq_some_iff.mp hy
      exact hb j hj
    · rintro ⟨x, hn, hx, hat, hb⟩
      obtain ⟨hk, rfl⟩ := List.getElem?_eq_some_iff.mp hx
      exact ⟨n - 1, ⟨hk, hat, fun j hj => hb j _ hj (List.getElem?_eq_getElem _)⟩, by omega⟩
  · simp [List.findIdx?_eq_none_iff]

theorem level_bounds {z : List ℚ} {h : ℚ} {n : Nat} (hl : level z h = some n) : 1 ≤ n ∧ n ≤ z.length := by
  obtain ⟨x, h1, hx, _⟩ := ((level_spec z h).1 n).mp hl
  have := (List.getElem?_eq_some_iff.mp hx).1
  omega

/-- C16. `RSM.nzref` / `RSM.nzfor` of the configuration are the numbers of the first
    level of the grid at or above the reference height `h_ref` / the night boundary-layer height `h_ubl2`. -/
theorem generate_rsm_levels (site : Epw.Site) (g : Epw.Ground) (first : Option Weather.Rec)
    (C : Cfg ℚ) (s : State ℚ) (h : generateState S P stock site g first zm = .ok (C, s)) :
    level C.z P.h_ref = some C.nzref ∧ level C.z P.h_ubl2 = some C.nzfor ∧
    1 ≤ C.nzref ∧ C.nzref ≤ C.z.length ∧ 1 ≤ C.nzfor ∧ C.nzfor ≤ C.z.length := by
  obtain ⟨q, a, rfl, _⟩ := generateState_ok h
  have e1 : level q.rsm.z P.h_ref = some q.rsm.nzref := a.z ▸ a.nzref
  have e2 : level q.rsm.z P.h_ubl2 = some q.nzfor := a.z ▸ a.nzfor
  exact ⟨e1, e2, (level_bounds e1).1, (level_bounds e1).2, (level_bounds e2).1, (level_bounds e2).2⟩

/-- C16. For a strictly increasing `z_meso` that starts at a non-negative height, the
    grid of the configuration is `Rsm.mesoGrid zm` (mid-points, differences), and - when the reference level is not
    the topmost cell (otherwise `diffusion_equation` reads `dz[nzref]` past the end) - the hypotheses `GridOK` that
    `kt_nonneg` / `vdm_step_admissible` (`Props/C16Coef`) need HOLD for what the constructor built: `GridOK nzref z
    dz`, `nzref + 1 ≤ len(dz)`, every spacing positive. -/
theorem generate_rsm_grid (site : Epw.Site) (g : Epw.Ground) (first : Option Weather.Rec)
    (C : Cfg ℚ) (s : State ℚ) (h0 : 0 ≤ zm.getD 0 0)
    (hinc : ∀ i, i + 1 < zm.length → zm.getD i 0 < zm.getD (i + 1) 0)
    (h : generateState S P stock site g first zm = .ok (C, s)) :
    C.z = (Rsm.mesoGrid zm).1 ∧ C.dz = (Rsm.mesoGrid zm).2 ∧ C.z0r = 1 / 10 * P.h_obs ∧ C.disp = 1 / 2 * P.h_obs ∧
    (C.nzref < C.z.length → Rsm.GridOK C.nzref C.z C.dz ∧ C.nzref + 1 ≤ C.dz.length ∧
      ∀ i, i < C.dz.length → 0 < C.dz.getD i 0) := by
  obtain ⟨q, a, rfl, _⟩ := generateState_ok h
  refine ⟨a.z, a.dz, a.z0r, a.disp, ?_⟩
  intro hlt
  change q.rsm.nzref < q.rsm.z.length at hlt
  show Rsm.GridOK q.rsm.nzref q.rsm.z q.rsm.dz ∧ q.rsm.nzref + 1 ≤ q.rsm.dz.length ∧
    ∀ i, i < q.rsm.dz.length → 0 < q.rsm.dz.getD i 0
  rw [a.z, a.dz] at *
  obtain ⟨hg, hpos⟩ := C16.gridOK_of_meso zm h0 hinc q.rsm.nzref hlt
  exact ⟨hg, by rw [(Rsm.mesoGrid_length zm).2, ← (Rsm.mesoGrid_length zm).1]; omega, hpos⟩

/-- C16. The initial profiles of the rural column: potential temperature uniformly
    the sensor temperature of the first window row, wind 1 at every level, the five profile lists of the lengths
    `VdmHyp` (`Lemmas/RsmCoef`) asks for, the lowest level at the station pressure of that row, and - for a positive
    sensor temperature - every level positive. (The top pressure being positive depends on the libm symbols and stays
    a hypothesis of `vdm_step_preserves`, checked on live runs.) -/
theorem generate_rsm_profiles (site : Epw.Site) (g : Epw.Ground) (first : Option Weather.Rec)
    (C : Cfg ℚ) (s : State ℚ) (h : generateState S P stock site g first zm = .ok (C, s)) :
    ∃ w, first = some w ∧ s.rsm.st.tempProf = List.replicate C.nzref w.temp ∧
      s.rsm.st.windProf = List.replicate C.nzref 1 ∧ s.rsm.st.presProf.length = C.nzref ∧
      s.rsm.st.tempRealProf.length = C.nzref ∧ s.rsm.st.densityProfC.length = C.nzref ∧
      s.rsm.st.densityProfS.length = C.nzref + 1 ∧ s.rsm.st.presProf[0]? = some w.pres ∧
      (0 < w.temp → ∀ i, i < C.nzref → 0 < s.rsm.st.tempProf.getD i 0) := by
  obtain ⟨q, a, rfl, rfl⟩ := generateState_ok h
  obtain ⟨p1, p2, p3, p4, p5, p6, p7⟩ := initProfiles_ok a.profiles
  refine ⟨q.w, a.first_eq, p1, p2, p3, p4, p5, p6, p7 (level_bounds a.nzref).1, ?_⟩
  intro hpos i hi
  show 0 < q.rsm.st.tempProf.getD i 0
  have hi' : i < q.rsm.nzref := hi
  rw [p1]
  simp [List.getD_eq_getElem?_getD, hi', hpos]

/-- C13, joining C07 / C08. With the stock selected by the tied model of
    `_customize_reference_data ; _compute_BEM` (`Bem.generateBEM`), the wall albedo handed to the canyon is the
    fraction-weighted sum of the wall albedos of the SELECTED buildings AFTER the overrides, the facade absorptivity
    `UCM.facAbsor` is made of the equally weighted glazing ratio, wall albedo and SHGC, every selected building
    carries each override that is set, and the buildings the simulation starts from are the selected ones in the
    selected order. (Nothing reads `facAbsor`: of the three averages only the wall albedo reaches a pass.) -/
theorem generate_canyon_averages (B : Bem.Params ℚ) (customs : List (Bem.Arch ℚ)) (lib : Bem.Lib ℚ)
    (payload : Nat → Bld ℚ) (sched : Nat → Sched ℚ) (es : List (Bem.Entry ℚ)) (tot : Bem.Totals ℚ)
    (site : Epw.Site) (g : Epw.Ground) (first : Option Weather.Rec) (x : Objects)
    (hb : Bem.generateBEM B customs lib = .ok (es, tot))
    (h : generateFull S P (stockOf payload sched (es, tot)) site g first zm = .ok x) :
    x.cfg.albWall = (es.map fun e => e.frac * e.arch.albWall).sum ∧
    x.extra.facAbsor = Urb.facAbsor (es.map fun e => e.frac * e.arch.glz).sum
      (es.map fun e => e.frac * e.arch.albWall).sum (es.map fun e => e.frac * e.arch.shgc).sum ∧
    (∀ v, B.albwall = some v → ∀ e ∈ es, (bldOf payload e).wall.albedo = v) ∧
    (∀ v, B.glzr = some v → ∀ e ∈ es, (bldOf payload e).glazingRatio = v) ∧
    (∀ v, B.shgc = some v → ∀ e ∈ es, (bldOf payload e).shgc = v) ∧
    x.state.blds = (es.map (bldOf payload)).map (autosize P.autosize) ∧
    x.cfg.sch = es.map fun e => sched e.arch.pid := by
  obtain ⟨q, a, hc, hs, he⟩ := generateFull_ok h
  obtain ⟨o1, o2, o3, _, _, _, t1, t2, t3⟩ := C08.override_applied_generate B customs lib es tot hb
  refine ⟨by rw [hc]; exact t3, ?_, o3, o1, o2, by rw [hs]; rfl, by rw [hc]; rfl⟩
  rw [he]
  show q.ucm.facAbsor = _
  rw [a.facAbsor]
  show Urb.facAbsor tot.rGlaze tot.albWall tot.shgc = _
  rw [t1, t2, t3]

/-- C20 / C17. With at least three ground depths in the header, a returning
    `generate()` carries as `_soilindex1` (and `_soilindex2`) exactly the index `columnOutcome` selected for the
    pavement of the parameter file - a stated depth -, the deep-temperature table of the run is row `i` of the
    header's monthly table, and the rural element the simulation starts from is that padded column at 293 K. -/
theorem generate_column_index (site : Epw.Site) (g : Epw.Ground) (first : Option Weather.Rec) (x : Objects)
    (h3 : 3 ≤ g.recs.length) (h : generateFull S P stock site g first zm = .ok x) :
    ∃ ls i, columnOutcome (1 / 20) (1 / 100) (1 / 1000000000000000) P.droad P.kroad P.croad 1 2000000
        (g.recs.map (·.depth)) = .ok ls (some i) ∧
      x.extra.soilIndex1 = some i ∧ x.extra.soilIndex2 = some i ∧ (∃ r, g.recs[i]? = some r) ∧
      tableOf P.droad P.kroad P.croad g = deepTable g i ∧
      x.state.rural.layers = ls.map (fun l => { d := l.d, k := l.k, c := l.c, t := 293 }) ∧
      x.extra.road.layers = ls.map (fun l => { d := l.d, k := l.k, c := l.c, t := 293 }) := by
  obtain ⟨q, a, _, hs, he⟩ := generateFull_ok h
  have hcol := a.column
  obtain ⟨i, hidx⟩ := roadColumn_idx_isSome hcol h3
  rw [hidx] at hcol
  refine ⟨q.col.1, i, hcol, by rw [he]; exact hidx, by rw [he]; exact hidx, roadColumn_index hcol, ?_,
    by rw [hs]; rfl, by rw [he]; rfl⟩
  unfold tableOf
  rw [hcol]

/-- The objects a simulation starts from: canyon and road temperature, the boundary
    layer and all its cells at the dry bulb of the FIRST window row (K), the canyon humidity at that row's humidity
    ratio, the canyon wind at its wind cell; street-level anthropogenic heat, `h_mix`, `latanth` the parameters; the
    canyon's road the un-padded pavement of `ceil(droad / 0.05)` layers of 5 cm at 293 K with the three cover
    fractions divided by the unbuilt fraction; no flux, no record yet. -/
theorem generate_initial_state (site : Epw.Site) (g : Epw.Ground) (first : Option Weather.Rec)
    (C : Cfg ℚ) (s : State ℚ) (h : generateState S P stock site g first zm = .ok (C, s)) :
    ∃ w wind, first = some w ∧ w.umod = .num wind ∧
      s.ucm.canTemp = w.temp ∧ s.ucm.roadTemp = w.temp ∧ s.ucm.canHum = w.hum ∧ s.ucm.canWind = wind ∧
      s.ubl.ublTemp = w.temp ∧ (∀ c ∈ s.ubl.cells, c = w.temp) ∧
      s.ucm.sensAnthrop = P.sensanth ∧ C.hMix = P.h_mix ∧ C.latAnthrop = P.latanth ∧ C.sensanth = P.sensanth ∧
      s.ucm.road.layers = List.replicate ⌈P.droad / (1 / 20)⌉₊ ⟨1 / 20, P.kroad, P.croad, 293⟩ ∧
      s.ucm.road.vegcoverage = (P.treecover + P.grasscover) / (1 - P.blddensity) ∧
      s.ucm.road.roadCover = some (P.grasscover / (1 - P.blddensity), P.treecover / (1 - P.blddensity)) ∧
      s.ucm.latHeat = none ∧ s.ucm.canRHum = none ∧ s.ucm.tdp = none ∧ 1 - P.blddensity ≠ 0 := by
  obtain ⟨q, a, rfl, rfl⟩ := generateState_ok h
  refine ⟨q.w, q.ucm.canWind, a.first_eq, a.wind, rfl, rfl, rfl, rfl, rfl, ?_, rfl, rfl, rfl, rfl, ?_, rfl, rfl, rfl,
    rfl, rfl, a.unbuilt⟩
  · intro c hc
    exact List.eq_of_mem_replicate hc
  · show (newElem _ _ _ _ (pavement P) 293).layers = _
    unfold newElem pavement
    simp

/-- `_hvac_autosize`. The buildings a simulation starts from are the selected ones, in
    order; with `autosize` set every one has cooling and heating capacity 9999, otherwise they are untouched. -/
theorem generate_autosize (site : Epw.Site) (g : Epw.Ground) (first : Option Weather.Rec)
    (C : Cfg ℚ) (s : State ℚ) (h : generateState S P stock site g first zm = .ok (C, s)) :
    s.blds.length = stock.blds.length ∧
    (P.autosize = true → ∀ b ∈ s.blds, b.coolcap = 9999 ∧ b.heatCap = 9999) ∧
    (P.autosize = false → s.blds = stock.blds) ∧ C.sch = stock.sch := by
  obtain ⟨q, _, rfl, rfl⟩ := generateState_ok h
  refine ⟨by simp [stateOfParts], ?_, ?_, rfl⟩
  · intro ha b hb
    simp only [stateOfParts, List.mem_map] at hb
    obtain ⟨b0, _, rfl⟩ := hb
    simp [autosize, ha]
  · intro ha
    have hid : autosize false = id := by funext b; simp [autosize]
    simp [stateOfParts, ha, hid]

/-- C10. `generate()` never returns objects built from refused input: a zero
    timestep or one that does not divide the hour is refused by `SimParam` BEFORE anything else is looked at (the
    exact exception); and text in the first wind cell, a pavement below the deepest of at least three stated depths
    (or an empty pavement), a non-positive conductivity or heat capacity of the pavement, a fully built-up area
    (`blddensity = 1`), an empty window, no level of the rural column at or above the reference height each make
    `generateState` an exception - no configuration, no state. -/
theorem generate_fail_stop_order (site : Epw.Site) (g : Epw.Ground) (first : Option Weather.Rec) :
    (P.dtsim = 0 → generateState S P stock site g first zm = .error ⟨.zerodiv, .simparam⟩) ∧
    (P.dtsim ≠ 0 → 3600 % P.dtsim ≠ 0 → generateState S P stock site g first zm = .error ⟨.timestep, .simparam⟩) ∧
    (((∃ w, first = some w ∧ w.umod = .text) ∨ first = none ∨
      roadColumn P.droad P.kroad P.croad g = .refused ∨ roadColumn P.droad P.kroad P.croad g = .index ∨
      P.kroad ≤ 0 ∨ P.croad ≤ 0 ∨ P.blddensity = 1 ∨ level (Rsm.mesoGrid zm).1 P.h_ref = none) →
      ∃ e, generateState S P stock site g first zm = .error e) := by
  refine ⟨?_, ?_, ?_⟩
  · intro h0
    simp [generateState, stages, simParam, h0, raise, bind, Except.bind]
  · intro h0 h1
    simp [generateState, stages, simParam, h0, h1, raise, bind, Except.bind]
  · intro hbad
    cases hg : generateState S P stock site g first zm with
    | error e => exact ⟨e, rfl⟩
    | ok cs =>
      exfalso
      obtain ⟨C, s⟩ := cs
      obtain ⟨q, a, _, _⟩ := generateState_ok hg
      rcases hbad with ⟨w, hw1, hw2⟩ | hn | h1 | h2 | h3 | h4 | h5 | h6
      · rw [a.first_eq] at hw1; cases hw1; rw [a.wind] at hw2; cases hw2
      · rw [a.first_eq] at hn; cases hn
      · rw [a.column] at h1; cases h1
      · rw [a.column] at h2; cases h2
      · exact absurd a.kroad (not_lt.mpr h3)
      · exact absurd a.croad (not_lt.mpr h4)
      · apply a.unbuilt; rw [h5]; norm_num
      · rw [a.nzref] at h6; cases h6

/-- The program with the stock selection composed in front (`_read_epw` first, then
    `_customize_reference_data ; _compute_BEM` = `Bem.generateBEM`): a written file comes from `uwgMain` on exactly the
    stock `stockOf` builds from the selection's outcome; a refused selection (`Bem.Err`) yields no file. -/
theorem uwgMainLib_stock (B : Bem.Params ℚ) (customs : List (Bem.Arch ℚ)) (lib : Bem.Lib ℚ)
    (payload : Nat → Bld ℚ) (sched : Nat → Sched ℚ) (p : Nat) (hdr rows : List Csv.Row) :
    (∀ text, uwgMainLib S P B customs lib payload sched zm p hdr rows = .ok text →
      ∃ r, Bem.generateBEM B customs lib = .ok r ∧
        uwgMain S P (stockOf payload sched r) zm p hdr rows = .ok text) ∧
    (∀ e, Bem.generateBEM B customs lib = .error e →
      ∃ e', uwgMainLib S P B customs lib payload sched zm p hdr rows = .error e') := by
  constructor
  · intro text h
    unfold uwgMainLib at h
    split at h
    · cases h
    · split at h
      · cases h
      · rename_i r hr; exact ⟨r, hr, h⟩
  · intro e he
    unfold uwgMainLib
    split
    · exact ⟨_, rfl⟩
    · rw [he]; exact ⟨_, rfl⟩

/-- `pipeline_ground_cells` with `generate_column_index` for the whole program (C20 end to end). For a
    ground-temperature line laid out as the EPW data dictionary says with ANY number `≥ 3` of depths: a returning
    `generate()` carries as `_soilindex1` an index `i` of a STATED depth, and for every month the deep temperature the
    run looks up is the number in cell `6 + 16·i + (m−1)` of line 4 plus 273.15, the ground-water temperature the
    number in cell `6 + 16·2 + (m−1)` plus 273.15. -/
theorem uwgMain_ground_cells (hdr rows : List Csv.Row) (label count : Cell) (recs : List Epw.GText)
    (trailing : List Cell) (parsed : List Epw.GRec) (x : Objects)
    (hc : Epw.parseInt count = some (recs.length : Int)) (hm : ∀ r ∈ recs, r.months.length = 12)
    (hp : Epw.parseRecs recs = some parsed) (h3 : 3 ≤ recs.length)
    (hg : hdr[3]? = some (Epw.groundLine label count recs trailing))
    (hf : generateFile S P stock zm hdr rows = .ok x) :
    ∃ i, x.extra.soilIndex1 = some i ∧ i < recs.length ∧
      ∀ m, 1 ≤ m → m ≤ 12 → ∃ (ci c2 : Cell) (vi v2 : ℚ),
        (Epw.groundLine label count recs trailing)[6 + 16 * i + (m - 1)]? = some ci ∧
        C06.parseFloat ci = some vi ∧
        (Epw.groundLine label count recs trailing)[6 + 16 * 2 + (m - 1)]? = some c2 ∧
        C06.parseFloat c2 = some v2 ∧
        tableOf P.droad P.kroad P.croad ⟨(recs.length : Int), parsed⟩ m =
          ⟨vi + 27315 / 100, v2 + 27315 / 100⟩ := by
  obtain ⟨site, g, wrecs, hh, _, _, hgf⟩ := generateFile_eq_ok.1 hf
  obtain rfl := readHeader_groundLine hc hm hp hg hh
  have hgr := Epw.readGround_groundLine label count recs trailing parsed hc hm hp
  have hlen : 3 ≤ (⟨(recs.length : Int), parsed⟩ : Epw.Ground).recs.length := by
    rw [Epw.readGround_recs_length hgr]
    exact h3
  obtain ⟨ls, i, hcol, hi1, _, _, _, _, _⟩ := generate_column_index (h3 := hlen) (h := hgf) ..
  obtain ⟨_, hi, _, _, hmon⟩ := pipeline_ground_cells (wrecs := wrecs) (hc := hc) (hm := hm) (hp := hp) (h3 := h3)
    (hg := hg) (hh := hh) (hcol := hcol) ..
  exact ⟨i, hi1, hi, hmon⟩

/-! ## Non-vacuity: a tiny city through `generate()` and the first hour of the whole program (kernel, over ℚ)

The parameters below, the one-building stock of `Props/Step.lean` (`exState.blds`, `exCfg.sch`), a rural column of four
levels and the rural file of `Props/Pipeline.lean` (`exHdr`, `exRows`: site 1.0 / 104.0 / 8.0, three ground depths, 24
rows with wind 0.5 below the minimum wind 1). The kernel evaluates `generateFile` completely, and ONE hour of the program
(`pipelineCore … hours = 1` on the generated configuration and state: exact rationals of a whole day of passes are out
of reach; `uwgMain` is the same function at `hours = 24·nday`, its full-day runs are exhibited by the harness in floating
point, C01). -/

def exP : GenParams :=
  { month := 1, day := 1, nday := 1, dtsim := 3600, dtweather := 3600, autosize := true, sensocc := 100,
    latfocc := 3 / 10, radfocc := 1 / 5, radfequip := 1 / 2, radflight := 7 / 10, h_ubl1 := 1000, h_ubl2 := 80,
    h_ref := 150, h_temp := 2, h_wind := 10, c_circ := 6 / 5, c_exch := 1, maxday := 150, maxnight := 20,
    windmin := 1, h_obs := 1 / 10, bldheight := 10, h_mix := 1, blddensity := 1 / 2, vertohor := 4 / 5,
    charlength := 1000, albroad := 1 / 10, droad := 1 / 2, sensanth := 20, latanth := none, grasscover := 1 / 10,
    treecover := 1 / 10, vegstart := 4, vegend := 10, albveg := 1 / 4, rurvegcover := 9 / 10, latgrss := 2 / 5,
    lattree := 3 / 5, schtraffic := StepProps.exCfg.schtraffic, kroad := 1, croad := 1600000 }

def exStock : Stock :=
  { blds := StepProps.exState.blds, sch := StepProps.exCfg.sch, rGlaze := 3 / 10, shgc := 2 / 5, albWall := 1 / 5 }

def exZm : List ℚ := [0, 20, 120, 300, 500]

/-- `generate()` returns: minimum wind and season handed on, site of the header, reference and night levels both the
    third cell (210 m is the first mid-point at or above 150 m and above 80 m), `_soilindex1 = 0` (the 0.5 m pavement
    reaches the first depth), four boundary-layer cells of 250 m at the first row's 303.15 K, autosized capacities;
    the hypotheses of `generate_rsm_grid` hold for this `z_meso` and the reference level is not the top cell. -/
example : (match generateFile stubQ exP exStock exZm exHdr exRows with
    | .ok x => decide (x.cfg.par.windMin = 1) && decide (x.cfg.par.vegStart = 4) && decide (x.cfg.lat = 1) &&
        decide (x.cfg.nzref = 3) && decide (x.cfg.nzfor = 3) && decide (x.cfg.z.length = 4) &&
        decide (x.extra.soilIndex1 = some 0) &&
        decide (x.state.ubl.cells = [6063 / 20, 6063 / 20, 6063 / 20, 6063 / 20]) &&
        (x.state.blds.all fun b => decide (b.coolcap = 9999)) && decide (x.state.ucm.canWind = 1 / 2) &&
        decide (x.extra.ublWind = 1) && decide (x.extra.nz0 = some 1) && decide (x.extra.nzi = none)
    | .error _ => false) = true := by
  decide +kernel

/-- The first hour of the whole program on the generated objects writes a file of 32 lines whose first window row
    carries the minimum wind `1.0` and the canyon temperature `30.2`. -/
example : (match generateFile stubQ exP exStock exZm exHdr exRows with
    | .ok x => ((pipelineCore stubQ x.cfg (fun _ => x.state) exP.droad exP.kroad exP.croad 3600 1 1 1 1 1 exHdr
        exRows).toOption.map fun t => ((parseFile t).length, cellAt (parseFile t) 8 21, cellAt (parseFile t) 8 6))
    | .error _ => none) = some (32, some "1.0".toList, some "30.2".toList) := by
  decide +kernel

/-- Fail-stop in Python's order on the same inputs: a timestep that does not divide the hour is refused before
    anything else; a fully built-up area stops at the cover fractions although the pavement is also too deep; a
    pavement below the deepest depth is refused; a reference height above the column is the TypeError of `range(None)`;
    a night boundary-layer height above the column is the model's own `nzfor` outcome. -/
example :
    (match generateFile stubQ { exP with dtsim := 7, blddensity := 1 } exStock exZm exHdr exRows with
      | .error (.gen ⟨.timestep, .simparam⟩) => true
      | _ => false) = true ∧
    (match generateFile stubQ { exP with blddensity := 1, grasscover := 0, treecover := 0, droad := 5 } exStock exZm
        exHdr exRows with
      | .error (.gen ⟨.zerodiv, .input⟩) => true
      | _ => false) = true ∧
    (match generateFile stubQ { exP with droad := 5 } exStock exZm exHdr exRows with
      | .error (.gen ⟨.refused, .input⟩) => true
      | _ => false) = true ∧
    (match generateFile stubQ { exP with h_ref := 500 } exStock exZm exHdr exRows with
      | .error (.gen ⟨.type, .rsm⟩) => true
      | _ => false) = true ∧
    (match generateFile stubQ { exP with h_ubl2 := 500 } exStock exZm exHdr exRows with
      | .error (.gen ⟨.nzfor, .rsm⟩) => true
      | _ => false) = true := by
  refine ⟨?_, ?_, ?_, ?_, ?_⟩ <;> decide +kernel

end Uwg.Gen
