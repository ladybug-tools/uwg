/-
C14 — HVAC never exceeds capacity and tracks its set-point.

Property theorems about the model `Uwg.Hvac.bemCalc` of `Building.BEMCalc`, for every linearly
ordered field `K` (ℚ, where the model is executed against the real code, and ℝ).

Reading guide.  `bemCalc φ i = .ok o` implies `o = bemCore φ i` (`bemCalc_ok`), so all statements
are made about `bemCore φ i`, the attribute values after the call, and about the per-footprint
quantities of the branch (`sensCoolC`, `dehumC`, `qheatH`, …).  The attributes
`sensCoolDemand`, `coolConsump`, `heatConsump` are *per floor area* (divided by `nFloor` at the
end of `BEMCalc`), `dehumDemand`, `Qhvac`, `Qheat`, `sensWaste` are per building footprint;
delivered cooling per footprint is therefore `sensCoolDemand * nFloor + dehumDemand`.

T1–T4 are stated **for the branch actually taken** (`branch i = .cool / .heat / .idle`).

Free cooling (a case the property's wording does not foresee).  When the canyon is at or below
288 K and the load sum at the cooling set-point is positive, the code takes *no* HVAC branch
(unless the heating branch applies) but still subtracts that load in the indoor balance
(`free_cooling_tracks`), without any capacity limit (`free_cooling_exceeds_capacity`, a concrete
witness).  If one reads "delivered cooling" as "heat removed from the room air", that case
contradicts "never exceeds rated capacity" and "energy use = delivered load / COP"; the theorems
below treat the system as inactive there (`Qhvac = 0`).
-/
import UwgVerif.Model.Hvac
import Mathlib.Tactic.Ring
import Mathlib.Tactic.FieldSimp
import Mathlib.Tactic.Linarith

namespace Uwg.C14
open Uwg.Hvac
variable {K : Type} [Field K] [LinearOrder K] [IsStrictOrderedRing K]
variable (phi : K → K → K → K) (i : BemIn K)

theorem nFloor_ge_one : 1 ≤ nFloor i := le_max_right _ _

theorem nFloor_pos : 0 < nFloor i := lt_of_lt_of_le one_pos (nFloor_ge_one i)

theorem nFloor_ne : nFloor i ≠ 0 := ne_of_gt (nFloor_pos i)

/-- The load sum and the balance coefficients are the same eight terms. Proved by `ring` from
    the written-out sums, so a term missing from `loadAt`, `h1` or `h2` makes this (and
    `tracks_setpoint_*`) fail. -/
theorem loadAt_eq (T : K) : loadAt i T = h1 i - h2 i * T + intHeat i + winTrans i := by
  unfold loadAt h1 h2; ring

theorem sensCool0_nonneg : 0 ≤ sensCool0 i := le_max_right _ _
theorem sensHeat0_nonneg : 0 ≤ sensHeat0 i := le_max_right _ _
theorem dehum0_nonneg : 0 ≤ dehum0 i := le_max_right _ _

omit [IsStrictOrderedRing K] in
theorem max_zero_of_pos {a : K} (h : 0 < max a 0) : max a 0 = a :=
  max_eq_left ((lt_max_iff.mp h).resolve_right (lt_irrefl 0)).le

theorem sensCool0_of_pos (h : 0 < sensCool0 i) : sensCool0 i = loadAt i (tCool i) :=
  max_zero_of_pos h

theorem sensHeat0_of_pos (h : 0 < sensHeat0 i) : sensHeat0 i = -(loadAt i (tHeat i)) :=
  max_zero_of_pos h

theorem branch_cool_iff : branch i = .cool ↔ 0 < sensCool0 i ∧ 288 < i.canTemp := by
  unfold branch
  split_ifs with h1 h2 <;> simp_all

theorem branch_heat_imp (h : branch i = .heat) : 0 < sensHeat0 i ∧ i.canTemp < 288 := by
  unfold branch at h
  split_ifs at h with h1 h2
  exact h2

theorem branch_idle_imp (h : branch i = .idle) :
    ¬ (0 < sensCool0 i ∧ 288 < i.canTemp) ∧ ¬ (0 < sensHeat0 i ∧ i.canTemp < 288) := by
  unfold branch at h
  split_ifs at h with h1 h2
  exact ⟨h1, h2⟩

theorem capTot_nonneg (hcap : 0 ≤ i.coolcap) : 0 ≤ capTot i :=
  mul_nonneg hcap (nFloor_pos i).le

theorem delivered_eq (hcap : 0 ≤ i.coolcap) :
    sensCoolC i + dehumC i = if limited i then capTot i else sensCool0 i + dehum0 i := by
  unfold sensCoolC dehumC
  split_ifs with hl
  · have htot : 0 < totDemand i := lt_of_le_of_lt (capTot_nonneg i hcap) hl
    have : totDemand i ≠ 0 := ne_of_gt htot
    have e : sensCool0 i * capTot i / totDemand i + dehum0 i * capTot i / totDemand i
        = totDemand i * capTot i / totDemand i := by unfold totDemand; ring
    rw [e]; field_simp
  · rfl

/-- A normal return of `bemCalc` yields exactly the attribute values `bemCore`, and then the
    temperature check passed and no divisor of the branch taken vanished. -/
theorem bemCalc_ok (o : BemOut K) (h : bemCalc phi i = .ok o) :
    o = bemCore phi i ∧ tempsOk i ∧ i.floorHeight ≠ 0 ∧ densDen i ≠ 0 ∧ i.bldDensity ≠ 0 ∧
      h2 i ≠ 0 ∧ humDen i ≠ 0 ∧ i.heateff ≠ 0 ∧ ¬ branchGuard i := by
  unfold bemCalc guards at h
  split_ifs at h with g1 g2 g3 g4
  rw [not_or, not_or] at g1 g4
  exact ⟨(Except.ok.inj h).symm, g2, g1.1, g1.2.1, g1.2.2, g4.1, g4.2.1, g4.2.2, g3⟩

theorem cool_attrs (hb : branch i = .cool) :
    (bemCore phi i).sensCoolDemand * (bemCore phi i).nFloor = sensCoolC i ∧
    (bemCore phi i).dehumDemand = dehumC i ∧ (bemCore phi i).Qhvac = qhvacC i ∧
    (bemCore phi i).coolConsump * (bemCore phi i).nFloor = coolConsumpC i ∧
    (hvac i).sensWaste = sensWasteC i := by
  simp only [bemCore, hvac, hb, div_mul_cancel₀ _ (nFloor_ne i), and_self]

theorem heat_attrs (hb : branch i = .heat) :
    (bemCore phi i).Qheat = qheatH i ∧
    (bemCore phi i).heatConsump * (bemCore phi i).nFloor = heatConsumpFp i ∧
    (hvac i).sensWaste = sensWasteH i := by
  simp only [bemCore, hvac, hb, div_mul_cancel₀ _ (nFloor_ne i), and_self]

/-! ### T1 — heating and cooling are never active together -/

theorem exclusive_cool (hb : branch i = .cool) :
    (bemCore phi i).Qheat = 0 ∧ (bemCore phi i).heatConsump = 0 ∧
    (bemCore phi i).sensHeatDemand = 0 := by
  simp only [bemCore, hvac, hb, and_self]

theorem exclusive_heat (hb : branch i = .heat) :
    (bemCore phi i).sensCoolDemand = 0 ∧ (bemCore phi i).dehumDemand = 0 ∧
    (bemCore phi i).Qhvac = 0 ∧ (bemCore phi i).coolConsump = 0 := by
  simp only [bemCore, hvac, hb, zero_div, and_self]

theorem exclusive_idle (hb : branch i = .idle) :
    (bemCore phi i).Qhvac = 0 ∧ (bemCore phi i).Qheat = 0 ∧ (bemCore phi i).dehumDemand = 0 ∧
    (bemCore phi i).coolConsump = 0 ∧ (bemCore phi i).heatConsump = 0 ∧
    (hvac i).sensWaste = 0 := by
  simp only [bemCore, hvac, hb, zero_div, and_self]

/-- In every step, whatever the state: either the heating quantities or the cooling quantities
    are all zero. -/
theorem never_both :
    ((bemCore phi i).Qheat = 0 ∧ (bemCore phi i).heatConsump = 0) ∨
    ((bemCore phi i).Qhvac = 0 ∧ (bemCore phi i).coolConsump = 0 ∧
      (bemCore phi i).dehumDemand = 0) := by
  cases hb : branch i
  · exact Or.inl ⟨(exclusive_cool phi i hb).1, (exclusive_cool phi i hb).2.1⟩
  · have := exclusive_heat phi i hb
    exact Or.inr ⟨this.2.2.1, this.2.2.2, this.2.1⟩
  · have := exclusive_idle phi i hb
    exact Or.inl ⟨this.2.1, this.2.2.2.2.1⟩

/-- With a heating set-point not above the cooling set-point (and non-negative total exchange
    coefficient) a positive cooling demand and a positive heating demand cannot coexist. -/
theorem demands_exclusive (hH2 : 0 ≤ h2 i) (hT : tHeat i ≤ tCool i) :
    ¬ (0 < sensCool0 i ∧ 0 < sensHeat0 i) := by
  rintro ⟨hc, hh⟩
  rw [sensCool0_of_pos i hc, loadAt_eq] at hc
  rw [sensHeat0_of_pos i hh, loadAt_eq] at hh
  -- the load falls with the set-point: `load(tHeat) − load(tCool) = H2·(tCool − tHeat) ≥ 0`
  have := mul_le_mul_of_nonneg_left hT hH2
  linarith

/-! ### T2 — delivery never exceeds rated capacity -/

/-- Cooling branch, rated capacity ≥ 0: delivered sensible + dehumidification cooling per
    footprint is at most `coolcap * nFloor`, equals `Qhvac`, and is exactly the capacity when the
    capacity test fired. -/
theorem cool_capacity (hcap : 0 ≤ i.coolcap) :
    sensCoolC i + dehumC i ≤ capTot i ∧ qhvacC i = sensCoolC i + dehumC i ∧
    (limited i → sensCoolC i + dehumC i = capTot i) := by
  rw [delivered_eq i hcap]
  unfold qhvacC
  split_ifs with hl
  · exact ⟨le_rfl, rfl, fun _ => rfl⟩
  · exact ⟨(add_comm _ _).le.trans (not_lt.mp hl), add_comm _ _, fun h => absurd h hl⟩

/-- The same in terms of the attributes left on the building object. -/
theorem cool_capacity_attrs (hb : branch i = .cool) (hcap : 0 ≤ i.coolcap) :
    (bemCore phi i).sensCoolDemand * (bemCore phi i).nFloor + (bemCore phi i).dehumDemand
        ≤ i.coolcap * (bemCore phi i).nFloor ∧
    (bemCore phi i).Qhvac
        = (bemCore phi i).sensCoolDemand * (bemCore phi i).nFloor + (bemCore phi i).dehumDemand ∧
    (bemCore phi i).Qhvac ≤ i.coolcap * (bemCore phi i).nFloor := by
  obtain ⟨h1, h2, _⟩ := cool_capacity i hcap
  obtain ⟨e, ed, eq, _⟩ := cool_attrs phi i hb
  rw [e, ed, eq]
  exact ⟨h1, h2, h2 ▸ h1⟩

/-- Delivered heating never exceeds `heat_cap * nFloor` (in the heating branch unconditionally;
    elsewhere `Qheat = 0`, which needs `heat_cap ≥ 0`). -/
theorem heat_capacity (h : branch i = .heat ∨ 0 ≤ i.heatCap) :
    (bemCore phi i).Qheat ≤ i.heatCap * (bemCore phi i).nFloor := by
  by_cases hb : branch i = .heat
  · rw [(heat_attrs phi i hb).1]; exact min_le_right _ _
  · have h0 : (bemCore phi i).Qheat = 0 := by
      cases hc : branch i
      · exact (exclusive_cool phi i hc).1
      · exact absurd hc hb
      · exact (exclusive_idle phi i hc).2.1
    rw [h0]
    exact mul_nonneg (h.resolve_left hb) (nFloor_pos i).le

/-! ### T3 — set-point tracking -/

/-- The indoor balance solved for the distance to a temperature `T`: the room ends above `T` by
    the part of the load at `T` that the systems do not remove, over `H2`. All of T3 and the
    indoor fixed point of C15 are read off this. -/
theorem indoorTempNew_eq (T : K) (hH2 : h2 i ≠ 0) :
    (bemCore phi i).indoorTemp =
      T + (loadAt i T - ((hvac i).sensCool - (hvac i).qheat)) / h2 i := by
  show indoorTempNew i = _
  unfold indoorTempNew qTot; rw [loadAt_eq]; field_simp; ring

/-- Cooling active and not capacity-limited: the indoor air ends the step exactly at the
    cooling set-point. -/
theorem tracks_setpoint_cool (hb : branch i = .cool) (hnl : ¬ limited i) (hH2 : h2 i ≠ 0) :
    (bemCore phi i).indoorTemp = tCool i := by
  have e := sensCool0_of_pos i ((branch_cool_iff i).mp hb).1
  rw [indoorTempNew_eq phi i (tCool i) hH2]
  simp only [hvac, hb, sensCoolC, if_neg hnl, e, sub_zero, sub_self, zero_div, add_zero]

/-- Cooling active and capacity-limited (capacity ≥ 0): the indoor air ends strictly above the
    cooling set-point. -/
theorem limited_cool_above_setpoint (hb : branch i = .cool) (hl : limited i)
    (hcap : 0 ≤ i.coolcap) (hH2 : 0 < h2 i) :
    tCool i < (bemCore phi i).indoorTemp := by
  have hpos := ((branch_cool_iff i).mp hb).1
  have htot : 0 < totDemand i := (capTot_nonneg i hcap).trans_lt hl
  have hlt : sensCoolC i < loadAt i (tCool i) := by
    rw [← sensCool0_of_pos i hpos, sensCoolC, if_pos hl, div_lt_iff₀ htot]
    exact mul_lt_mul_of_pos_left hl hpos
  rw [indoorTempNew_eq phi i (tCool i) hH2.ne']
  simp only [hvac, hb, sub_zero]
  exact lt_add_of_pos_right _ (div_pos (sub_pos.2 hlt) hH2)

/-- Heating active and not capacity-limited: the indoor air ends the step exactly at the heating
    set-point. -/
theorem tracks_setpoint_heat (hb : branch i = .heat) (hnl : sensHeat0 i ≤ heatCapTot i)
    (hH2 : h2 i ≠ 0) :
    (bemCore phi i).indoorTemp = tHeat i := by
  have e : qheatH i = -(loadAt i (tHeat i)) := by
    rw [qheatH, min_eq_left hnl, sensHeat0_of_pos i (branch_heat_imp i hb).1]
  rw [indoorTempNew_eq phi i (tHeat i) hH2]
  simp only [hvac, hb, e, zero_sub, neg_neg, sub_self, zero_div, add_zero]

/-- Heating active and capacity-limited: the indoor air ends strictly below the heating
    set-point. -/
theorem limited_heat_below_setpoint (hb : branch i = .heat) (hl : heatCapTot i < sensHeat0 i)
    (hH2 : 0 < h2 i) :
    (bemCore phi i).indoorTemp < tHeat i := by
  have e := sensHeat0_of_pos i (branch_heat_imp i hb).1
  rw [indoorTempNew_eq phi i (tHeat i) hH2.ne']
  simp only [hvac, hb, qheatH, min_eq_right hl.le, zero_sub, sub_neg_eq_add]
  exact add_lt_of_neg_right _ (div_neg_of_neg_of_pos (lt_neg_iff_add_neg'.1 (e ▸ hl)) hH2)

/-- Free cooling, as the code has it: no branch taken but a positive load at the cooling
    set-point (canyon ≤ 288 K). The load is subtracted all the same, so the room ends exactly at
    the cooling set-point although `Qhvac = coolConsump = 0` and there is no HVAC waste heat. -/
theorem free_cooling_tracks (hb : branch i = .idle) (hpos : 0 < sensCool0 i) (hH2 : h2 i ≠ 0) :
    (bemCore phi i).indoorTemp = tCool i ∧ (bemCore phi i).Qhvac = 0 ∧
    (bemCore phi i).coolConsump = 0 ∧ (hvac i).sensWaste = 0 ∧ i.canTemp ≤ 288 := by
  have hx := exclusive_idle phi i hb
  refine ⟨?_, hx.1, hx.2.2.2.1, hx.2.2.2.2.2, ?_⟩
  · rw [indoorTempNew_eq phi i (tCool i) hH2]
    simp only [hvac, hb, sensCool0_of_pos i hpos, sub_zero, sub_self, zero_div, add_zero]
  · exact not_lt.mp fun hc => (branch_idle_imp i hb).1 ⟨hpos, hc⟩

/-- The sign conditions that make the six exchange coefficients of `h1`, `h2` non-negative
    (`weights_nonneg`); `h2_pos` and `C15.indoor_convex` take the same ten one by one. -/
structure Admissible : Prop where
  verToHor : 0 ≤ i.verToHor
  bldDensity : 0 < i.bldDensity
  glz0 : 0 ≤ i.glazingRatio
  glz1 : i.glazingRatio ≤ 1
  uValue : 0 ≤ i.uValue
  infil : 0 ≤ i.infil
  vent : 0 ≤ i.vent
  bldHeight : 0 ≤ i.bldHeight
  dens : 0 ≤ dens i
  cp : 0 ≤ i.cp

theorem weights_nonneg (ha : Admissible i) :
    0 ≤ wallArea i * zacWall ∧ 0 < massArea i * zacMass ∧ 0 < zacCeil i ∧
    0 ≤ winArea i * i.uValue ∧ 0 ≤ volInfil i * dens i * i.cp ∧
    0 ≤ volVent i * dens i * i.cp := by
  have hfac : 0 ≤ facArea i := div_nonneg ha.verToHor ha.bldDensity.le
  have hz : (0 : K) < 3076 / 1000 := by norm_num
  have hm : 0 < massArea i :=
    sub_pos.2 (one_lt_two.trans_le (le_mul_of_one_le_right zero_le_two (nFloor_ge_one i)))
  refine ⟨mul_nonneg (mul_nonneg hfac (sub_nonneg.mpr ha.glz1)) hz.le, mul_pos hm hz, ?_,
    mul_nonneg (mul_nonneg hfac ha.glz0) ha.uValue,
    mul_nonneg (mul_nonneg (div_nonneg (mul_nonneg ha.infil ha.bldHeight) (by norm_num)) ha.dens)
      ha.cp,
    mul_nonneg (mul_nonneg (mul_nonneg ha.vent (nFloor_pos i).le) ha.dens) ha.cp⟩
  unfold zacCeil; split_ifs <;> norm_num

/-- The total exchange coefficient `H2` is positive for every physically admissible state
    (non-negative geometry, rates and air density; the floor/ceiling terms alone are ≥ 4.024). -/
theorem h2_pos (hv : 0 ≤ i.verToHor) (hd : 0 < i.bldDensity) (hg0 : 0 ≤ i.glazingRatio)
    (hg1 : i.glazingRatio ≤ 1) (hu : 0 ≤ i.uValue) (hi : 0 ≤ i.infil) (hve : 0 ≤ i.vent)
    (hb : 0 ≤ i.bldHeight) (hdens : 0 ≤ dens i) (hcp : 0 ≤ i.cp) : 0 < h2 i := by
  obtain ⟨w1, w2, w3, w4, w5, w6⟩ := weights_nonneg i ⟨hv, hd, hg0, hg1, hu, hi, hve, hb, hdens, hcp⟩
  unfold h2
  linarith

/-! ### T4 — energy use and rejected heat -/

theorem removedC_eq (hcap : 0 ≤ i.coolcap) :
    removedC i = sensCoolC i + dehumC i := by
  unfold removedC
  apply max_eq_left
  rw [delivered_eq i hcap]
  split_ifs
  · exact capTot_nonneg i hcap
  · exact add_nonneg (sensCool0_nonneg i) (dehum0_nonneg i)

/-- Cooling: electricity use (per floor area) × `nFloor` × COP = delivered cooling per footprint. -/
theorem energy_cool (hb : branch i = .cool) (hcap : 0 ≤ i.coolcap) (hcop : i.copAdj ≠ 0) :
    (bemCore phi i).coolConsump * (bemCore phi i).nFloor * i.copAdj
      = (bemCore phi i).sensCoolDemand * (bemCore phi i).nFloor + (bemCore phi i).dehumDemand := by
  obtain ⟨e, ed, _, ec, _⟩ := cool_attrs phi i hb
  rw [e, ed, ec, coolConsumpC, div_mul_cancel₀ _ hcop, removedC_eq i hcap]

/-- Heating: fuel use (per floor area) × `nFloor` × efficiency = delivered heat per footprint. -/
theorem energy_heat (hb : branch i = .heat) (heff : i.heateff ≠ 0) :
    (bemCore phi i).heatConsump * (bemCore phi i).nFloor * i.heateff = (bemCore phi i).Qheat := by
  obtain ⟨eq, ec, _⟩ := heat_attrs phi i hb
  rw [eq, ec, heatConsumpFp, div_mul_cancel₀ _ heff]

/-- Air-cooled condenser: HVAC rejected heat = removed heat + compressor work. -/
theorem waste_air (hb : branch i = .cool) (hcap : 0 ≤ i.coolcap) (hc : i.cond = .air) :
    (hvac i).sensWaste
      = (bemCore phi i).Qhvac + (bemCore phi i).coolConsump * (bemCore phi i).nFloor := by
  obtain ⟨_, _, eq, ec, ew⟩ := cool_attrs phi i hb
  rw [ew, eq, ec, (cool_capacity i hcap).2.1, ← removedC_eq i hcap]
  simp only [sensWasteC, hc]

/-- Water-cooled condenser (`evapEff = 1`): sensible rejected heat = removed heat. -/
theorem waste_water (hb : branch i = .cool) (hcap : 0 ≤ i.coolcap) (hc : i.cond = .water) :
    (hvac i).sensWaste = (bemCore phi i).Qhvac := by
  obtain ⟨_, _, eq, _, ew⟩ := cool_attrs phi i hb
  rw [ew, eq, (cool_capacity i hcap).2.1, ← removedC_eq i hcap]
  simp only [sensWasteC, hc, evapEff, sub_self, mul_zero, add_zero]

/-- Heating: HVAC waste heat = fuel use − delivered heat (per footprint). -/
theorem waste_heat (hb : branch i = .heat) :
    (hvac i).sensWaste
      = (bemCore phi i).heatConsump * (bemCore phi i).nFloor - (bemCore phi i).Qheat := by
  obtain ⟨eq, ec, ew⟩ := heat_attrs phi i hb
  rw [ew, eq, ec, sensWasteH]

/-- The `sensWaste` attribute = HVAC rejected heat + service-hot-water losses + gas-equipment
    losses, exactly as the code adds them. -/
theorem sensWaste_formula :
    (bemCore phi i).sensWaste
      = (hvac i).sensWaste + (1 / i.heateff - 1) * (volSWH i * 4200 * (49 + 27315 / 100 - i.waterTemp))
        + i.gas * (1 - i.heateff) * nFloor i := rfl

theorem hvac_sensWaste_nonneg (hcop : 0 < i.copAdj)
    (heff0 : 0 < i.heateff) (heff1 : i.heateff ≤ 1) (hhc : 0 ≤ i.heatCap) :
    0 ≤ (hvac i).sensWaste := by
  cases hb : branch i
  · have hrem : 0 ≤ removedC i := le_max_right _ _
    have hcc : 0 ≤ coolConsumpC i := div_nonneg hrem hcop.le
    simp only [hvac, hb, sensWasteC]
    cases i.cond
    · exact add_nonneg hrem hcc
    · exact add_nonneg hrem (mul_nonneg hcc (by simp [evapEff]))
  · have hq : 0 ≤ qheatH i :=
      le_min (sensHeat0_nonneg i) (mul_nonneg hhc (nFloor_pos i).le)
    simp only [hvac, hb, sensWasteH, heatConsumpFp, sub_nonneg]
    exact (le_div_iff₀ heff0).2 (mul_le_of_le_one_right hq heff1)
  · simp only [hvac, hb, le_refl]

/-- Rejected heat is never negative — under the honest hypotheses: COP > 0, capacities ≥ 0,
    `0 < heateff ≤ 1`, hot-water draw and gas load ≥ 0, and **mains water not hotter than the
    49 °C service temperature** (`waterTemp ≤ 322.15`). Each but `coolcap ≥ 0` is needed (the
    removed heat is a `max(·, 0)` whatever the capacity): `heateff > 1` or `waterTemp > 322.15`
    make the service-hot-water / gas terms negative. -/
theorem sensWaste_nonneg (hcop : 0 < i.copAdj) (hcap : 0 ≤ i.coolcap)
    (heff0 : 0 < i.heateff) (heff1 : i.heateff ≤ 1) (hhc : 0 ≤ i.heatCap)
    (hswh : 0 ≤ i.swh) (hgas : 0 ≤ i.gas) (hw : i.waterTemp ≤ 49 + 27315 / 100) :
    0 ≤ (bemCore phi i).sensWaste := by
  have h1 := hvac_sensWaste_nonneg i hcop heff0 heff1 hhc
  have h2 : 0 ≤ 1 / i.heateff - 1 := sub_nonneg.2 ((le_div_iff₀ heff0).2 (by rwa [one_mul]))
  have h3 : 0 ≤ swhHeat i :=
    mul_nonneg (mul_nonneg (div_nonneg (mul_nonneg hswh (nFloor_pos i).le) (by norm_num))
      (by norm_num [cpH2O])) (sub_nonneg.mpr hw)
  have h4 : 0 ≤ i.gas * (1 - i.heateff) * nFloor i :=
    mul_nonneg (mul_nonneg hgas (sub_nonneg.mpr heff1)) (nFloor_pos i).le
  exact add_nonneg (add_nonneg h1 (mul_nonneg h2 h3)) h4

/-! ### T5 — the recorded defect of the unrepaired capacity rescaling -/

/-- The rescaling as it stood before the repair: the latent part was scaled with the *already
    rescaled* sensible part in the denominator. Returns (sensible, latent) delivered. -/
def rescaleAsis (s d cap : K) : K × K :=
  let s' := s * cap / (d + s)
  (s', d * cap / (d + s'))

/-- s = 80, d = 40, capacity 60: the unrepaired rescaling delivers 40 + 30 = 70 > 60. -/
theorem asis_exceeds_capacity :
    (rescaleAsis (80 : ℚ) 40 60).1 + (rescaleAsis (80 : ℚ) 40 60).2 = 70 ∧ (60 : ℚ) < 70 := by
  norm_num [rescaleAsis]

/-! ### Non-vacuity: concrete states in every branch (evaluated by the kernel over ℚ) -/

/-- A mid-rise office on a hot afternoon (canyon 303 K, set-point 297 K). -/
def exCool : BemIn ℚ :=
  { floorHeight := 3, intHeatNight := 10, intHeatDay := 10, intHeatFRad := 1/2, intHeatFLat := 1/10,
    infil := 1/2, vent := 1/1000, glazingRatio := 2/5, uValue := 3, shgc := 1/2, cond := .air,
    copAdj := 3, coolcap := 200, heateff := 4/5, heatCap := 200, coolSetDay := 297,
    coolSetNight := 297, heatSetDay := 293, heatSetNight := 293, indoorTemp := 298,
    indoorHum := 1/100, latWaste0 := 0, bldHeight := 12, verToHor := 1, bldDensity := 1/2,
    canTemp := 303, canHum := 3/200, tWall := 300, tCeil := 301, tMass := 299, solRec := 100,
    swh := 1/2, elec := 5, light := 5, gas := 1, pres := 101325, waterTemp := 290, lv := 2260000,
    cp := 1004, nightSetStart := 18, nightSetEnd := 8, secDay := 43200, dt := 300 }

/-- The same building in a cold canyon (268 K) with cold fabric. -/
def exHeat : BemIn ℚ :=
  { exCool with canTemp := 268, tWall := 285, tCeil := 284, tMass := 289, indoorTemp := 292,
                solRec := 0, intHeatDay := 2, intHeatNight := 2 }

/-- Warm fabric and large internal gains while the canyon is at 286 K: free cooling. -/
def exFree : BemIn ℚ :=
  { exCool with canTemp := 286, intHeatDay := 80, intHeatNight := 80, infil := 1/10,
                vent := 1/10000, coolcap := 5 }

/-- Everything between the set-points and no gains: neither system runs. -/
def exIdle : BemIn ℚ :=
  { exCool with canTemp := 295, tWall := 295, tCeil := 295, tMass := 295, indoorTemp := 295,
                solRec := 0, intHeatDay := 0, intHeatNight := 0 }

/-- cooling, not limited, air-cooled: hypotheses of T1–T4 hold and the call returns normally -/
example : branch exCool = .cool ∧ ¬ limited exCool ∧ 0 < h2 exCool ∧ guards exCool = none ∧
    (bemCore (fun _ _ _ => 0) exCool).indoorTemp = 297 := by decide +kernel

example : let i := { exCool with coolcap := 5, cond := .water }
    branch i = .cool ∧ limited i ∧ 0 < h2 i ∧ guards i = none ∧
    (bemCore (fun _ _ _ => 0) i).Qhvac = 20 ∧ 297 < (bemCore (fun _ _ _ => 0) i).indoorTemp := by
  decide +kernel

example : branch exHeat = .heat ∧ sensHeat0 exHeat ≤ heatCapTot exHeat ∧ 0 < h2 exHeat ∧
    guards exHeat = none ∧ (bemCore (fun _ _ _ => 0) exHeat).indoorTemp = 293 := by
  decide +kernel

example : let i := { exHeat with heatCap := 5 }
    branch i = .heat ∧ heatCapTot i < sensHeat0 i ∧ guards i = none ∧
    (bemCore (fun _ _ _ => 0) i).Qheat = 20 ∧ (bemCore (fun _ _ _ => 0) i).indoorTemp < 293 := by
  decide +kernel

example : branch exIdle = .idle ∧ sensCool0 exIdle = 0 ∧ sensHeat0 exIdle = 0 ∧
    guards exIdle = none := by decide +kernel

/-- the hypotheses of `sensWaste_nonneg` and `h2_pos` are satisfiable together -/
example : 0 < exCool.copAdj ∧ 0 ≤ exCool.coolcap ∧ 0 < exCool.heateff ∧ exCool.heateff ≤ 1 ∧
    0 ≤ exCool.heatCap ∧ 0 ≤ exCool.swh ∧ 0 ≤ exCool.gas ∧ exCool.waterTemp ≤ 49 + 27315 / 100 ∧
    0 ≤ dens exCool := by decide +kernel

/-- **Free cooling is not bounded by the rated capacity** (witness). A physically admissible
    state (`exFree`: canyon 286 K, cooling set-point 297 K, rated capacity 5 W m⁻² × 4 floors =
    20 W m⁻²) on which `BEMCalc` returns normally, takes no HVAC branch, uses no cooling energy
    and rejects no heat — yet the sensible heat it removes from the room air
    (`sensCoolDemand * nFloor`) exceeds the rated capacity more than tenfold, and the room ends
    exactly at the cooling set-point. -/
theorem free_cooling_exceeds_capacity :
    guards exFree = none ∧ branch exFree = .idle ∧
    (bemCore (fun _ _ _ => 0) exFree).Qhvac = 0 ∧
    (bemCore (fun _ _ _ => 0) exFree).coolConsump = 0 ∧
    (bemCore (fun _ _ _ => 0) exFree).indoorTemp = 297 ∧
    10 * (exFree.coolcap * (bemCore (fun _ _ _ => 0) exFree).nFloor)
      < (bemCore (fun _ _ _ => 0) exFree).sensCoolDemand * (bemCore (fun _ _ _ => 0) exFree).nFloor := by
  decide +kernel

end Uwg.C14
