/-
Facts about `List.Forall₂` beside those of `Mathlib.Data.List.Forall2`: two relations chained through a middle
list, and the partner of an element found at an index on the left or as a member on the right.
-/
import Mathlib.Data.List.Forall2

namespace List.Forall₂
variable {α β γ : Type}

theorem comp_iff {R : α → β → Prop} {S : β → γ → Prop} {l : List α} {l'' : List γ} :
    (∃ l', Forall₂ R l l' ∧ Forall₂ S l' l'') ↔ Forall₂ (fun a c => ∃ b, R a b ∧ S b c) l l'' := by
  constructor
  · rintro ⟨l', h1, h2⟩
    induction h1 generalizing l'' with
    | nil => cases h2; exact .nil
    | cons hab _ ih => cases h2 with | cons hbc h2 => exact .cons ⟨_, hab, hbc⟩ (ih h2)
  · intro h
    induction h with
    | nil => exact ⟨[], .nil, .nil⟩
    | cons hac _ ih =>
      obtain ⟨⟨b, hab, hbc⟩, l', h1, h2⟩ := hac, ih
      exact ⟨b :: l', .cons hab h1, .cons hbc h2⟩

theorem getElem?_left {R : α → β → Prop} {l : List α} {l' : List β} (h : Forall₂ R l l') {n : Nat} {a : α}
    (ha : l[n]? = some a) : ∃ b, l'[n]? = some b ∧ R a b := by
  induction h generalizing n with
  | nil => cases ha
  | cons hab _ ih =>
    cases n with
    | zero =>
      cases ha
      exact ⟨_, rfl, hab⟩
    | succ n => exact ih ha

theorem mem_right {R : α → β → Prop} {l : List α} {l' : List β} (h : Forall₂ R l l') {b : β} (hb : b ∈ l') :
    ∃ a ∈ l, R a b := by
  induction h with
  | nil => cases hb
  | cons hab _ ih =>
    rcases List.mem_cons.mp hb with rfl | hb
    · exact ⟨_, List.mem_cons_self, hab⟩
    · obtain ⟨a, ha, hr⟩ := ih hb
      exact ⟨a, List.mem_cons_of_mem _ ha, hr⟩

end List.Forall₂
