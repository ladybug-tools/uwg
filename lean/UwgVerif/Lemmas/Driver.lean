/-
Lemmas for the driver model (C02): `drvLoop` computes the closed-form trace `stepSpec` (by the arithmetic of the row
index and the record counter), its record events are `recSpec`, and the stamp of a data row is a calendar instant.
-/
import UwgVerif.Model.Driver
import UwgVerif.Lemmas.Clock

namespace Uwg

theorem rowIdx_eq {dt it : Nat} (hpos : 0 < dt) (hit : 1 ≤ it) : rowIdx dt it = (it * dt - 1) / 3600 := by
  have : 1 ≤ it * dt := Nat.mul_pos hit hpos
  unfold rowIdx
  omega

/-- What the loop arithmetic rests on: as `dt ∣ 3600`, a pass that starts at `j·dt` ends inside the same hour or exactly
on its end; no pass straddles an hour boundary. -/
theorem hour_room {dt : Nat} (hdt : dt ∣ 3600) (j : Nat) : (j * dt) % 3600 + dt ≤ 3600 :=
  add_le_of_dvd_lt ((Nat.dvd_mod_iff hdt).2 ⟨j, Nat.mul_comm _ _⟩) hdt (Nat.mod_lt _ (by decide))

/-- The number of hours completed when pass `j + 1` starts, which is the record counter there, is the forcing row that
pass reads (`rowIdx_eq`). -/
theorem counter_eq_row {dt : Nat} (hdt : dt ∣ 3600) (hpos : 0 < dt) (j : Nat) :
    (j * dt) / 3600 = ((j + 1) * dt - 1) / 3600 := by
  have h := hour_room hdt j
  rw [Nat.succ_mul]
  omega

/-- The number of hours completed goes up by one exactly at a pass that ends on a whole hour: the record counter's
update. -/
theorem counter_step {dt : Nat} (hdt : dt ∣ 3600) (hpos : 0 < dt) (j : Nat) :
    ((j + 1) * dt) / 3600 = if ((j + 1) * dt) % 3600 = 0 then (j * dt) / 3600 + 1 else (j * dt) / 3600 := by
  have h := hour_room hdt j
  rw [Nat.succ_mul]
  split <;> omega

/-- Loop index `3600(n+1)/dt` ends hour `n` exactly. -/
theorem recSpec_it_mul {dt : Nat} (hdt : dt ∣ 3600) (n : Nat) : 3600 * (n + 1) / dt * dt = 3600 * (n + 1) :=
  Nat.div_mul_cancel (Nat.dvd_trans hdt ⟨n + 1, rfl⟩)

/-- Expected observation at loop index `it`, given the sequence `cs` of clock states
(`cs k` = state after `k` updates). -/
def stepSpec (dt : Nat) (cs : Nat → Clock) (it : Nat) : StepTrace :=
  { it := it, row := (it * dt - 1) / 3600, secDay := (cs it).secDay, hourDay := (cs it).hourDay,
    month := (cs it).month, day := (cs it).day, julian := (cs it).julian,
    dayType := dayType (cs it).julian, nBefore := (it * dt - 1) / 3600,
    recorded := decide (it * dt % 3600 = 0), monthBefore := (cs (it - 1)).month }

section
variable {dt N rows K : Nat} (hdt : dt ∣ 3600) (hpos : 0 < dt) (cs : Nat → Clock)
  (hupd : ∀ k, k < K → Clock.update dt (cs k) = some (cs (k + 1)))
  (hsec : ∀ k, k ≤ K → (cs k).secDay % 3600 = (k * dt) % 3600)
  (hK : K * dt ≤ 3600 * N) (hrows : N ≤ rows)
include hdt hpos hupd hsec hK hrows

theorem drvStep_returns (j : Nat) (hjK : j < K) :
    drvStep dt N rows (j + 1) (cs j) ((j * dt) / 3600) =
      .ok (cs (j + 1), ((j + 1) * dt) / 3600, stepSpec dt cs (j + 1)) := by
  have hle : (j + 1) * dt ≤ K * dt := Nat.mul_le_mul_right dt hjK
  have hcnt := counter_eq_row hdt hpos j
  have hrow : rowIdx dt (j + 1) = j * dt / 3600 := (rowIdx_eq hpos (Nat.succ_pos j)).trans hcnt.symm
  have hlt : j * dt / 3600 < N := by
    have h1 : 1 ≤ (j + 1) * dt := Nat.mul_pos (Nat.succ_pos j) hpos
    omega
  have hnr : ¬ rows ≤ j * dt / 3600 := by omega
  unfold drvStep
  rw [hupd j hjK, counter_step hdt hpos j, hrow]
  simp [stepSpec, ← hcnt, hnr, hsec (j + 1) hjK, hlt]

theorem drvLoop_returns : ∀ steps j, j + steps = K →
    drvLoop dt N rows steps (j + 1) (cs j) ((j * dt) / 3600) =
      .ok ((List.range' (j + 1) steps).map (stepSpec dt cs)) := by
  intro steps
  induction steps with
  | zero => intro j _; simp [drvLoop]
  | succ steps ih =>
    intro j hj
    rw [drvLoop, drvStep_returns hdt hpos cs hupd hsec hK hrows j (by omega)]
    simp only []
    rw [ih (j + 1) (by omega)]
    simp [List.range'_succ]

end

/-- Expected record event for slot `n`: taken at loop index `3600(n+1)/dt`, forced by row `n`. -/
def recSpec (dt n : Nat) : Nat × Nat × Nat := (n, 3600 * (n + 1) / dt, n)

theorem records_spec {dt : Nat} (hdt : dt ∣ 3600) (hpos : 0 < dt) (cs : Nat → Clock) (K : Nat) :
    records ((List.range' 1 K).map (stepSpec dt cs)) = (List.range (K * dt / 3600)).map (recSpec dt) := by
  induction K with
  | zero => simp [records]
  | succ K ih =>
    have hcnt := counter_eq_row hdt hpos K
    have hnext := counter_step hdt hpos K
    unfold records at ih ⊢
    rw [List.range'_1_concat, List.map_append, List.filterMap_append, ih, hnext]
    by_cases hrec : (K + 1) * dt % 3600 = 0
    · have hit : 3600 * (K * dt / 3600 + 1) / dt = K + 1 := by
        rw [if_pos hrec] at hnext
        have : 3600 * (K * dt / 3600 + 1) = (K + 1) * dt := by omega
        rw [this, Nat.mul_div_cancel _ hpos]
      simp [stepSpec, hrec, List.range_succ, recSpec, ← hcnt, hit, Nat.add_comm 1 K]
    · simp [stepSpec, hrec, Nat.add_comm 1 K]

/-- Data row `k` of an hourly file is stamped with the calendar date of the instant `k` hours into the year and the
number of the hour that begins there. The instant is a variable `t` (see the head of `Lemmas/Clock.lean`), and the
fields come one by one, for `rw`: projecting the triple of `stamp_eq` at an instant `d * 86400 + ..` is again a
comparison of that kind. -/
theorem stamp_fields {k t : Nat} (h : t = k * 3600) :
    (stamp k).1 = (trueCalendar t).month ∧ (stamp k).2.1 = (trueCalendar t).day ∧
    (stamp k).2.2 = (trueCalendar t).hourDay + 1 := by
  have e1 : t / 86400 = k / 24 := by omega
  have e2 : t % 86400 / 3600 = k % 24 := by omega
  rw [trueCalendar_month, trueCalendar_day, trueCalendar_hourDay, e1, e2]
  exact ⟨rfl, rfl, rfl⟩

theorem stamp_eq {k t : Nat} (h : t = k * 3600) :
    stamp k = ((trueCalendar t).month, (trueCalendar t).day, (trueCalendar t).hourDay + 1) :=
  Prod.ext (stamp_fields h).1 (Prod.ext (stamp_fields h).2.1 (stamp_fields h).2.2)

end Uwg
