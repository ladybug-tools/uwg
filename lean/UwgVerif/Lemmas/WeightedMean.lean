/-
Weighted means over an ordered field.

Every air-node update of uwg has the shape `T_new = (Σ wᵢ·Tᵢ + Q) / Σ wᵢ`. `Between lo hi a w`
says that the pair `(a, w) = (Σ wᵢ·Tᵢ, Σ wᵢ)` is what one gets from temperatures `Tᵢ ∈ [lo, hi]`
and weights `wᵢ ≥ 0`; for `w > 0` the mean `a / w` then lies in `[lo, hi]`. The maximum principle of the
tridiagonal solver (`Lemmas/Tridiag`) bounds right-hand sides by row sums in the same way.
-/
import Mathlib.Algebra.Order.Field.Basic

namespace Uwg
variable {K : Type} [Field K] [LinearOrder K]

/-- Reducible, so the statements of `Props/C15` that spell the two inequalities out are instances of it. -/
abbrev Between (lo hi a w : K) : Prop := lo * w ≤ a ∧ a ≤ hi * w

namespace Between
variable {lo hi a a' w w' T c : K}

theorem zero : Between lo hi (0 : K) 0 := ⟨(mul_zero lo).le, (mul_zero hi).ge⟩

theorem one (hT : lo ≤ T ∧ T ≤ hi) : Between lo hi T 1 :=
  ⟨(mul_one lo).le.trans hT.1, hT.2.trans (mul_one hi).ge⟩

theorem of_eq (h : Between lo hi a w) (ha : a = a') (hw : w = w') : Between lo hi a' w' :=
  ha ▸ hw ▸ h

variable [IsStrictOrderedRing K]

theorem single (hw : 0 ≤ w) (hT : lo ≤ T ∧ T ≤ hi) : Between lo hi (T * w) w :=
  ⟨mul_le_mul_of_nonneg_right hT.1 hw, mul_le_mul_of_nonneg_right hT.2 hw⟩

theorem single' (hw : 0 ≤ w) (hT : lo ≤ T ∧ T ≤ hi) : Between lo hi (w * T) w :=
  mul_comm T w ▸ single hw hT

theorem add (h : Between lo hi a w) (h' : Between lo hi a' w') :
    Between lo hi (a + a') (w + w') :=
  ⟨(mul_add lo w w').le.trans (add_le_add h.1 h'.1),
   (add_le_add h.2 h'.2).trans (mul_add hi w w').ge⟩

theorem smul (hc : 0 ≤ c) (h : Between lo hi a w) : Between lo hi (c * a) (c * w) :=
  ⟨(mul_left_comm lo c w).le.trans (mul_le_mul_of_nonneg_left h.1 hc),
   (mul_le_mul_of_nonneg_left h.2 hc).trans (mul_left_comm c hi w).le⟩

theorem div (h : Between lo hi a w) (hw : 0 < w) : lo ≤ a / w ∧ a / w ≤ hi :=
  ⟨(le_div_iff₀ hw).2 h.1, (div_le_iff₀ hw).2 h.2⟩

end Between

theorem wmean_mono [IsStrictOrderedRing K] {a w q q' : K} (hw : 0 < w) (hq : q ≤ q') : (a + q) / w ≤ (a + q') / w :=
  div_le_div_of_nonneg_right (add_le_add le_rfl hq) hw.le

end Uwg
