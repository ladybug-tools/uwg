/-
Taking a returned value of an `Except`-valued definition apart.  Core Lean only.

For definitions written as `do` blocks (`x >>= f`, `pure`, `Except.map`) and as guard chains
`if bad then .error e else …`: `simp only [f, bind_eq_ok, pure_eq_ok] at h` turns `h : f … = .ok b` into the
chain of returned intermediate values.  A definition written with an explicit
`match x with | .error e => .error e | .ok a => …` is NOT reached by these lemmas (its matcher is a constant of
its own, which neither `simp` nor unification identifies with `>>=`); it gets an inversion lemma of its own
among the lemmas of its model: `f_eq_ok` if an iff (`f … = .ok y ↔ …`), `f_ok` if it says only what a returned
value tells (`f … = .ok y → …`).
-/

namespace Except
universe u v
variable {ε ε' : Type u} {α β γ : Type v}

theorem ok_bind (a : α) (f : α → Except ε β) : (Except.ok a >>= f) = f a := rfl

theorem pure_eq_ok {a b : α} : (pure a : Except ε α) = .ok b ↔ a = b :=
  ⟨(fun h => by cases h; rfl), fun h => by rw [h]; rfl⟩

theorem bind_eq_ok {x : Except ε α} {f : α → Except ε β} {b : β} :
    x >>= f = .ok b ↔ ∃ a, x = .ok a ∧ f a = .ok b := by
  cases x with
  | error e => exact ⟨(fun h => by cases h), fun ⟨_, h, _⟩ => by cases h⟩
  | ok a => exact ⟨fun h => ⟨a, rfl, h⟩, fun ⟨_, h, hf⟩ => by cases h; exact hf⟩

theorem bind_of_eq_ok {x : Except ε α} {a : α} (f : α → Except ε β) (h : x = .ok a) : x >>= f = f a := by
  rw [h]; rfl

theorem bind_congr {x : Except ε α} {f g : α → Except ε β} (h : ∀ a, x = .ok a → f a = g a) :
    x >>= f = x >>= g := by
  cases x with
  | error e => rfl
  | ok a => exact h a rfl

theorem bind_congr_both {x x' : Except ε α} (hx : x = x') {f g : α → Except ε β} (h : ∀ a, f a = g a) :
    x >>= f = x' >>= g := by
  subst hx
  exact bind_congr fun a _ => h a

theorem map_bind (x : Except ε α) (g : α → Except ε β) (f : β → γ) :
    (x >>= g).map f = x >>= fun a => (g a).map f := by
  cases x with
  | error e => rfl
  | ok a => rfl

theorem bind_map_congr {α' : Type v} {x : Except ε α} {x' : Except ε α'} {m : α' → α} (hx : x = x'.map m)
    {f : α → Except ε β} {g : α' → Except ε β} (h : ∀ a, f (m a) = g a) : x >>= f = x' >>= g := by
  subst hx
  cases x' with
  | error e => rfl
  | ok a => exact h a

theorem map_eq_ok {x : Except ε α} {f : α → β} {b : β} :
    x.map f = .ok b ↔ ∃ a, x = .ok a ∧ f a = b := by
  cases x with
  | error e => exact ⟨(fun h => by cases h), fun ⟨_, h, _⟩ => by cases h⟩
  | ok a => exact ⟨fun h => ⟨a, rfl, by cases h; rfl⟩, fun ⟨_, h, hf⟩ => by cases h; rw [← hf]; rfl⟩

theorem mapError_eq_ok {x : Except ε α} {f : ε → ε'} {a : α} : x.mapError f = .ok a ↔ x = .ok a := by
  cases x with
  | error e => exact ⟨(fun h => by cases h), fun h => by cases h⟩
  | ok a' => exact ⟨(fun h => by cases h; rfl), fun h => by cases h; rfl⟩

theorem ite_error_right_eq_ok {c : Prop} [Decidable c] {x : Except ε α} {e : ε} {a : α} :
    (if c then x else .error e) = .ok a ↔ c ∧ x = .ok a := by
  by_cases h : c
  · rw [if_pos h]; exact ⟨fun hx => ⟨h, hx⟩, fun hx => hx.2⟩
  · rw [if_neg h]; exact ⟨(fun hx => by cases hx), fun hx => absurd hx.1 h⟩

theorem ite_error_left_eq_ok {c : Prop} [Decidable c] {x : Except ε α} {e : ε} {a : α} :
    (if c then .error e else x) = .ok a ↔ ¬c ∧ x = .ok a := by
  by_cases h : c
  · rw [if_pos h]; exact ⟨(fun hx => by cases hx), fun hx => absurd h hx.1⟩
  · rw [if_neg h]; exact ⟨fun hx => ⟨h, hx⟩, fun hx => hx.2⟩

end Except
