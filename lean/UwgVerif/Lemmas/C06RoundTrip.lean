/-
C06 — `UWG.fromDict (UWG.toDict m)` for valid models: `round_trip_core`, from which `Props/C06` gets `from_to_dict`,
`to_from_to` and `from_to_dict_empty_refs`.
-/
import UwgVerif.Lemmas.C06Routes

namespace Uwg.C06
open Uwg.Gen

/-- a value a setter of kind `k` can have stored: a fixed point of its normalisation -/
def Stored (k : Kind) (v : J) : Prop := norm k v = .ok v

/-- `getattr(m, n)` (`None` if the attribute was never set) -/
def UWG.attr (m : UWG) (n : Str) : J := (alookup n m.st).getD .null

/-- custom reference vectors as `_check_reference_data` leaves them -/
def RefsValid : Option (List BEMDef) → Option (List SchDef) → Prop
  | none, none => True
  | some bs, some ss =>
    bs ≠ [] ∧ checkRef bs ss = .ok () ∧ (∀ b ∈ bs, b.Valid) ∧ (∀ s ∈ ss, s.Valid)
  | _, _ => False

/-- every PARAMETER_LIST attribute is set to a value its setter stores, and the three cover fractions sum to
    at most one (in each of the orders the setters use) -/
structure UWG.ParamsValid (m : UWG) : Prop where
  params : ∀ n ∈ paramList, ∃ v, alookup n m.st = some v ∧ Stored (kindOf n) v
  cover : ∀ n ∈ paramList, ∀ a b, kindOf n = .cover a b → CoverOK m.attr m.attr a b n

structure UWG.Valid (m : UWG) : Prop extends UWG.ParamsValid m where
  refs : RefsValid m.refBem m.refSch

theorem UWG.ParamsValid.attr_stored {m : UWG} (hp : m.ParamsValid) {n : Str} (hn : n ∈ paramList) :
    alookup n m.st = some (m.attr n) ∧ Stored (kindOf n) (m.attr n) := by
  obtain ⟨v, hv, hs⟩ := hp.params n hn
  rw [UWG.attr, hv]
  exact ⟨rfl, hs⟩

def UWG.Same (m m' : UWG) : Prop :=
  (∀ n ∈ paramList, alookup n m.st = alookup n m'.st) ∧ m.refBem = m'.refBem ∧ m.refSch = m'.refSch

def refTail (rb : Option (List BEMDef)) (rs : Option (List SchDef)) : List (Str × J) :=
  if truthy rb && truthy rs then
    [(cs! "ref_sch_vector", .list ((rs.getD []).map SchDef.toDict)),
     (cs! "ref_bem_vector", .list ((rb.getD []).map BEMDef.toDict))]
  else []

theorem UWG.toDict_congr (b : Bool) {m m' : UWG} (h : UWG.Same m m') : m.toDict b = m'.toDict b := by
  obtain ⟨h1, h2, h3⟩ := h
  unfold UWG.toDict
  rw [getAttrs_congr h1, h2, h3]

theorem UWG.fromDict_eq_ok {d : J} {m : UWG} :
    UWG.fromDict d = .ok m ↔ checkType (cs! "UWG") d = .ok () ∧
      ∃ st, runSetters (fun n => d.get n) paramList initSt = .ok st ∧
      ∃ r, UWG.refsFromDict d = .ok r ∧ m = ⟨st, r.1, r.2⟩ := by
  simp only [UWG.fromDict, Except.bind_eq_ok, pure, Except.pure, Except.ok.injEq, eq_comm (a := m)]
  exact ⟨fun ⟨_, h⟩ => h, fun h => ⟨(), h⟩⟩

section
variable (f : Str → J) (tail : List (Str × J))

/-- the dictionary `to_dict` emits, with an arbitrary tail after the parameters -/
def dictOf : J := .obj ((cs! "type", J.str (cs! "UWG")) :: ((paramList.map fun n => (n, f n)) ++ tail))

theorem UWG.toDict_returns (b : Bool) (m : UWG) (h : ∀ n ∈ paramList, alookup n m.st = some (f n)) :
    m.toDict b = .ok (dictOf f (if b then refTail m.refBem m.refSch else [])) := by
  unfold UWG.toDict
  rw [getAttrs_returns h]
  cases b
  · simp [dictOf]
  · simp only [Bool.true_and, refTail, dictOf]
    split <;> simp

theorem dictOf_type : checkType (cs! "UWG") (dictOf f tail) = .ok () := by
  simp [dictOf, checkType, J.get, alookup]

theorem dictOf_get (ht : tableOK = true) {n : Str} (hn : n ∈ paramList) :
    (dictOf f tail).get n = .ok (f n) := by
  have h1 : n ≠ cs! "type" := fun h => (tableOK_free ht).1 (h ▸ hn)
  simp only [dictOf, J.get, alookup, h1, if_false, alookup_append, alookup_map_self, hn, if_true,
    Option.orElse]

theorem dictOf_get_tail {k : Str} (hk : k ∉ paramList) (hk' : k ≠ cs! "type") :
    (dictOf f tail).get k = (J.obj tail).get k := by
  simp only [dictOf, J.get, alookup, hk', if_false, alookup_append, alookup_map_self, hk, Option.orElse]
end

theorem checkRef_length {bs : List BEMDef} {ss : List SchDef} (h : checkRef bs ss = .ok ()) :
    ss.length = bs.length := by
  unfold checkRef at h
  split at h
  · cases h
  · rename_i hl
    simpa using hl

theorem truthy_iff {α : Type} (l : List α) : truthy (some l) = true ↔ l ≠ [] := by
  cases l <;> simp [truthy]

/-- valid reference vectors are both absent or both non-empty: `to_dict` emits exactly what there is -/
theorem RefsValid.emitted {rb : Option (List BEMDef)} {rs : Option (List SchDef)} (h : RefsValid rb rs) :
    (if truthy rb && truthy rs then (rb, rs) else (none, none)) = (rb, rs) := by
  match rb, rs, h with
  | none, none, _ => rfl
  | some bs, some ss, ⟨hne, hchk, _, _⟩ =>
    have hs : ss ≠ [] := fun h0 =>
      hne (List.eq_nil_of_length_eq_zero (by rw [← checkRef_length hchk, h0]; rfl))
    rw [(truthy_iff bs).2 hne, (truthy_iff ss).2 hs]
    rfl

theorem refsFromDict_congr {d d' : J}
    (hs : d.get (cs! "ref_sch_vector") = d'.get (cs! "ref_sch_vector"))
    (hb : d.get (cs! "ref_bem_vector") = d'.get (cs! "ref_bem_vector")) :
    UWG.refsFromDict d = UWG.refsFromDict d' := by
  unfold UWG.refsFromDict presentNotNone
  rw [hs, hb]

theorem refsFromDict_none {d : J} (hs : d.get (cs! "ref_sch_vector") = .error .key)
    (hb : d.get (cs! "ref_bem_vector") = .error .key) : UWG.refsFromDict d = .ok (none, none) :=
  refsFromDict_congr (d' := .obj []) hs hb

theorem UWG.fromDict_of_refs_none {d : J} (ht : checkType (cs! "UWG") d = .ok ())
    (hr : UWG.refsFromDict d = .ok (none, none)) :
    UWG.fromDict d = (runSetters (fun n => d.get n) paramList initSt).map (⟨·, none, none⟩) := by
  unfold UWG.fromDict
  rw [Except.bind_of_eq_ok _ ht]
  cases runSetters (fun n => d.get n) paramList initSt with
  | error e => rfl
  | ok st => rw [Except.bind_of_eq_ok _ rfl, Except.bind_of_eq_ok _ hr]; rfl

theorem refsFromDict_vectors (ss bs : List J) :
    UWG.refsFromDict (.obj [(cs! "ref_sch_vector", .list ss), (cs! "ref_bem_vector", .list bs)]) =
      SchDef.fromDicts ss >>= fun schs => BEMDef.fromDicts bs >>= fun bems =>
        checkRef bems schs >>= fun _ => pure (some bems, some schs) :=
  rfl

theorem refsFromDict_dictOf (f : Str → J) (ht : tableOK = true)
    (rb : Option (List BEMDef)) (rs : Option (List SchDef))
    (hv : (truthy rb && truthy rs) = true → RefsValid rb rs) :
    UWG.refsFromDict (dictOf f (refTail rb rs)) =
      .ok (if truthy rb && truthy rs then (rb, rs) else (none, none)) := by
  obtain ⟨_, hs, hb⟩ := tableOK_free ht
  rw [refsFromDict_congr (dictOf_get_tail f _ hs (by decide)) (dictOf_get_tail f _ hb (by decide))]
  unfold refTail
  split
  · rename_i htr
    match rb, rs, hv htr with
    | some bs, some ss, ⟨_, hchk, hbv, hsv⟩ =>
      rw [Option.getD_some, Option.getD_some, refsFromDict_vectors,
        Except.bind_of_eq_ok _ (schdefs_from_to ss hsv), Except.bind_of_eq_ok _ (bemdefs_from_to bs hbv),
        Except.bind_of_eq_ok _ hchk]
      rfl
  · rfl

/-- `from_to_dict` and `from_to_dict_empty_refs` at once: the reference vectors need be valid only where `to_dict`
    emits them -/
theorem round_trip_core (m : UWG) (tf : TableFacts) (hp : m.ParamsValid)
    (hv : (truthy m.refBem && truthy m.refSch) = true → RefsValid m.refBem m.refSch) :
    ∃ d m', m.toDict true = .ok d ∧ UWG.fromDict d = .ok m' ∧
      (∀ n ∈ paramList, alookup n m.st = alookup n m'.st) ∧
      (m'.refBem, m'.refSch) =
        (if truthy m.refBem && truthy m.refSch then (m.refBem, m.refSch) else (none, none)) := by
  have hd := UWG.toDict_returns m.attr true m fun n hn => (hp.attr_stored hn).1
  -- the stored values are what their setters store again, so `ParamsValid` is the criterion for assigning them
  have hnv : ∀ n ∈ paramList, nvOf m.attr n = m.attr n := fun n hn => nvOf_eq (hp.attr_stored hn).2
  have hcov : CovInv m.attr paramList := by
    refine ⟨fun n hn => ?_, fun n a b hn ha hb hk => ?_⟩
    · rw [hnv n hn]
      exact (hp.attr_stored hn).2
    · unfold CoverOK
      rw [hnv a ha, hnv b hb, hnv n hn]
      exact hp.cover n hn a b hk
  obtain ⟨st', hrun, hinv⟩ := runSetters_returns (seen := []) tf hcov
    (src := fun n => (dictOf m.attr (refTail m.refBem m.refSch)).get n)
    (fun n hn => dictOf_get m.attr _ tf.ok hn) (fun _ h => h) nofun stInv_init
  have hrefs := refsFromDict_dictOf m.attr tf.ok m.refBem m.refSch hv
  refine ⟨_, _, hd, UWG.fromDict_eq_ok.2 ⟨dictOf_type _ _, st', hrun, _, hrefs, rfl⟩, fun n hn => ?_, rfl⟩
  rw [(hp.attr_stored hn).1, hinv n, List.nil_append, if_pos hn, hnv n hn]

end Uwg.C06
