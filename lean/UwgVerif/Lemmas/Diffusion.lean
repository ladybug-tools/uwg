import UwgVerif.Model.Diffusion
import UwgVerif.Lemmas.Tridiag
import UwgVerif.Lemmas.Except
import Mathlib.Tactic.LinearCombination

/-!
`RSMDef.diffusion_equation`. An interior row is the heat balance of its level (`diffRow_sat_iff`)
and the balances telescope (`interior_telescope`); `pyChecks_eq_none` spells out a passed guard
check by check; every row is an M-matrix row with row sum 1 and an old value on the right, or the
closing row (`diffusionRows_avg`), so that `solve_bounded` gives the maximum principle.
-/

namespace Uwg
variable {K : Type} [Field K]

theorem interiorRows_length (dt g : K) (ls : List (Level K)) :
    (interiorRows dt g ls).length = ls.length := by
  fun_induction interiorRows dt g ls with
  | case3 _ _ _ _ ih => simp only [List.length_cons, ih]
  | _ => rfl

theorem diffusionRows_length (dt : K) (ls : List (Level K)) :
    (diffusionRows dt ls).length = ls.length := by
  fun_cases diffusionRows dt ls with
  | case3 => simp only [List.length_cons, interiorRows_length]
  | _ => rfl

theorem interiorRows_getLast (dt g : K) (l : Level K) (rest : List (Level K)) :
    (interiorRows dt g (l :: rest)).getLast? = some topRow := by
  induction rest generalizing l g with
  | nil => rfl
  | cons l' rest ih => rw [interiorRows, List.getLast?_cons, ih]; rfl

theorem diffusionRows_getLast (dt : K) (l : Level K) (rest : List (Level K)) :
    (diffusionRows dt (l :: rest)).getLast? = some topRow := by
  cases rest with
  | nil => rfl
  | cons l1 rest => rw [diffusionRows, List.getLast?_cons, interiorRows_getLast]; rfl

theorem sat_diffusionRows {dt : K} {l0 l1 : Level K} {ls : List (Level K)} {xs : List K}
    (h : Sat 0 (diffusionRows dt (l0 :: l1 :: ls)) xs) :
    ∃ xs', xs = l0.co :: xs' ∧ Sat l0.co (interiorRows dt (cddzI l0 l1) (l1 :: ls)) xs' := by
  obtain ⟨x, xs, rfl, hx, h'⟩ := h.cons_elim
  obtain rfl : x = l0.co := by simpa using hx
  exact ⟨xs, rfl, h'⟩

/-- The closing row makes the last two unknowns equal; `xprev`, the unknown below the first
    listed level, is one of them when a single level is listed. -/
theorem interior_top {dt : K} {l : Level K} {rest : List (Level K)} {g xprev : K} {xs : List K}
    (h : Sat xprev (interiorRows dt g (l :: rest)) xs) :
    (xprev :: xs)[rest.length + 1]? = (xprev :: xs)[rest.length]? := by
  induction rest generalizing l g xprev xs with
  | nil =>
    obtain ⟨x, xs, rfl, hx, -⟩ := h.cons_elim
    have : x = xprev := by
      simp only [topRow] at hx
      linear_combination hx
    rw [this]; rfl
  | cons l' rest ih =>
    obtain ⟨x, xs, rfl, -, h'⟩ := h.cons_elim
    exact ih h'

theorem diffRow_sat_iff {dt g g' : K} {l : Level K} (hdz : l.dz ≠ 0) (hda : l.da ≠ 0)
    {xprev x xnext : K} :
    (diffRow dt g g' l).a * xprev + (diffRow dt g g' l).b * x + (diffRow dt g g' l).c * xnext =
      (diffRow dt g g' l).y ↔
    l.da * l.dz * (x - l.co) = dt * g * (xprev - x) - dt * g' * (x - xnext) := by
  refine eq_iff_of_mul_sub (mul_ne_zero hda hdz) ?_
  simp only [diffRow]
  field_simp
  ring

/-- Heat-content change of all listed levels but the last: `Σ da·dz·(x − co)`. -/
def interiorSum : List (Level K) → List K → K
  | l :: l' :: rest, x :: xs => l.da * l.dz * (x - l.co) + interiorSum (l' :: rest) xs
  | _, _ => 0

theorem interior_telescope {dt : K} {l : Level K} {rest : List (Level K)} {g xprev : K}
    {xs : List K} (hnz : ∀ q ∈ (l :: rest).dropLast, q.dz ≠ 0 ∧ q.da ≠ 0)
    (h : Sat xprev (interiorRows dt g (l :: rest)) xs) :
    interiorSum (l :: rest) xs = dt * g * (xprev - xs.headD 0) := by
  induction rest generalizing l g xprev xs with
  | nil =>
    obtain ⟨x, xs, rfl, hx, -⟩ := h.cons_elim
    simp only [topRow] at hx
    simp only [interiorSum, List.headD_cons]
    linear_combination (dt * g) * hx
  | cons l' rest ih =>
    obtain ⟨x, xs, rfl, hx, h'⟩ := h.cons_elim
    rw [List.dropLast_cons_cons, List.forall_mem_cons] at hnz
    have hb := (diffRow_sat_iff hnz.1.1 hnz.1.2).mp hx
    simp only [interiorSum, List.headD_cons]
    linear_combination hb + ih hnz.2 h'

theorem firstErr_eq_none (cs : List (Option PyErr)) :
    firstErr cs = none ↔ ∀ c ∈ cs, c = none := by
  induction cs with
  | nil => simp [firstErr]
  | cons c cs ih => cases c <;> simp [firstErr, ih]

section Dec
variable [DecidableEq K]

theorem needNZ_eq_none {b : K} : needNZ b = none ↔ b ≠ 0 := by
  unfold needNZ; split <;> simp_all

theorem needIdx_eq_none {α : Type} {l : List α} {i : Nat} :
    needIdx l i = none ↔ i < l.length := by
  unfold needIdx; split <;> simp_all

theorem solveChecked_eq_ok {rs : List (Row K)} {xs : List K} :
    solveChecked rs = .ok xs ↔ Pivots rs ∧ xs = solve rs := by
  rw [solveChecked, Except.ite_error_left_eq_ok, Except.ok.injEq, eq_comm (a := solve rs)]
  simp only [Pivots, List.any_eq_true, decide_eq_true_eq, not_exists, not_and]

theorem diffusion_eq_ok {nz : Nat} {dt : K} {co da daz cd dz xs : List K} :
    diffusion nz dt co da daz cd dz = .ok xs ↔
      firstErr (pyChecks nz co da daz cd dz) = none ∧
      Pivots (diffusionRows dt (mkLevels nz co da daz cd dz)) ∧
      xs = solve (diffusionRows dt (mkLevels nz co da daz cd dz)) := by
  unfold diffusion
  split
  · rename_i e he
    simp [he]
  · rename_i he
    simp [he, solveChecked_eq_ok]

/-- What a passed guard says, check by check in the order of `pyChecks`: `cddz[0]`,
    `cddz[1..nz-1]`, `cddz[nz]`, `a[0]` / `co[0]`, and the interior rows `1..nz-2`. The five groups
    are nested as the `++` of `pyChecks` is, to the left: `(((g₀ ∧ g₁) ∧ g₂) ∧ g₃) ∧ g₄`. -/
theorem pyChecks_eq_none {nz : Nat} {co da daz cd dz : List K} :
    firstErr (pyChecks nz co da daz cd dz) = none ↔
      ((((0 < daz.length ∧ 0 < cd.length ∧ 0 < dz.length ∧ dz.getD 0 0 ≠ 0) ∧
        ∀ iz, 1 ≤ iz ∧ iz < nz → iz < daz.length ∧ iz < cd.length ∧ iz < dz.length ∧
          dz.getD iz 0 + dz.getD (iz - 1) 0 ≠ 0) ∧
        nz < daz.length ∧ nz < cd.length ∧ nz < dz.length ∧ dz.getD nz 0 ≠ 0) ∧
        ¬nz = 0 ∧ 0 < co.length) ∧
      ∀ iz, 1 ≤ iz ∧ iz + 1 < nz →
        dz.getD iz 0 ≠ 0 ∧ iz < da.length ∧ da.getD iz 0 ≠ 0 ∧ iz < co.length := by
  have e1 : ∀ a, (1 ≤ a ∧ a < 1 + (nz - 1)) ↔ (1 ≤ a ∧ a < nz) := fun a => by omega
  have e2 : ∀ a, (1 ≤ a ∧ a < 1 + (nz - 2)) ↔ (1 ≤ a ∧ a + 1 < nz) := fun a => by omega
  simp only [firstErr_eq_none, pyChecks, List.forall_mem_append, List.forall_mem_cons,
    List.forall_mem_flatMap, needIdx_eq_none, needNZ_eq_none, List.mem_range'_1, List.not_mem_nil,
    false_imp_iff, implies_true, and_true, ite_eq_right_iff, reduceCtorEq, imp_false, e1, e2]

theorem checks_nz_pos (nz : Nat) (co da daz cd dz : List K)
    (h : firstErr (pyChecks nz co da daz cd dz) = none) : 0 < nz :=
  Nat.pos_of_ne_zero (pyChecks_eq_none.mp h).1.2.1

theorem pyChecks_pass {nz : Nat} {co da daz cd dz : List K} (h1 : 1 ≤ nz)
    (hco : co.length = nz) (hda : da.length = nz) (hdaz : daz.length = nz + 1)
    (hcd : cd.length = nz + 1) (hdz : nz + 1 ≤ dz.length)
    (hdzne : ∀ i, i ≤ nz → dz.getD i 0 ≠ 0)
    (hsum : ∀ i, 1 ≤ i → i < nz → dz.getD i 0 + dz.getD (i - 1) 0 ≠ 0)
    (hdane : ∀ i, i < nz → da.getD i 0 ≠ 0) :
    firstErr (pyChecks nz co da daz cd dz) = none := by
  rw [pyChecks_eq_none, hco, hda, hdaz, hcd]
  refine ⟨⟨⟨⟨⟨?_, ?_, ?_, hdzne 0 (by omega)⟩, fun i hi => ⟨?_, ?_, ?_, hsum i hi.1 hi.2⟩⟩,
    ?_, ?_, ?_, hdzne nz le_rfl⟩, ?_, ?_⟩, fun i hi => ⟨hdzne i ?_, ?_, hdane i ?_, ?_⟩⟩
  all_goals omega

end Dec

def levelAt (co da daz cd dz : List K) (i : Nat) : Level K :=
  { co := co.getD i 0, da := da.getD i 0, dz := dz.getD i 0, daz := daz.getD i 0,
    cd := cd.getD i 0 }

/-- `mkLevels` is the case `lo = 0` (`mkLevels_eq`); this form can be
    taken apart from the front (`levelsFrom_succ`), as the definitions of the rows do. -/
def levelsFrom (co da daz cd dz : List K) (lo n : Nat) : List (Level K) :=
  (List.range' lo n).map (levelAt co da daz cd dz)

theorem mkLevels_eq (nz : Nat) (co da daz cd dz : List K) :
    mkLevels nz co da daz cd dz = levelsFrom co da daz cd dz 0 nz := by
  simp [mkLevels, levelsFrom, List.range_eq_range', levelAt]

theorem levelsFrom_succ (co da daz cd dz : List K) (lo n : Nat) :
    levelsFrom co da daz cd dz lo (n + 1) =
      levelAt co da daz cd dz lo :: levelsFrom co da daz cd dz (lo + 1) n := by
  simp [levelsFrom, List.range'_succ]

theorem levelsFrom_length (co da daz cd dz : List K) (lo n : Nat) :
    (levelsFrom co da daz cd dz lo n).length = n := by
  simp [levelsFrom]

theorem forall_mem_levelsFrom {co da daz cd dz : List K} {lo n : Nat} {P : Level K → Prop} :
    (∀ l ∈ levelsFrom co da daz cd dz lo n, P l) ↔
      ∀ i, lo ≤ i → i < lo + n → P (levelAt co da daz cd dz i) := by
  simp only [levelsFrom, List.forall_mem_map, List.mem_range'_1, and_imp]

theorem levelsFrom_dropLast (co da daz cd dz : List K) (lo n : Nat) :
    (levelsFrom co da daz cd dz lo n).dropLast = levelsFrom co da daz cd dz lo (n - 1) := by
  cases n with
  | zero => rfl
  | succ n => simp [levelsFrom, List.range'_concat]

theorem interiorSum_levelsFrom (co da daz cd dz X : List K) (n lo : Nat)
    (hlen : lo + n + 1 ≤ X.length) :
    interiorSum (levelsFrom co da daz cd dz lo (n + 1)) (X.drop lo) =
      sumFrom (fun i => da.getD i 0 * dz.getD i 0 * (X.getD i 0 - co.getD i 0)) lo n := by
  induction n generalizing lo with
  | zero => simp [levelsFrom, interiorSum, sumFrom]
  | succ n ih =>
    have hlo : lo < X.length := by omega
    have hx : X.getD lo 0 = X[lo] := by simp [List.getD_eq_getElem?_getD, hlo]
    have := ih (lo + 1) (by omega)
    rw [levelsFrom_succ] at this ⊢
    rw [levelsFrom_succ, List.drop_eq_getElem_cons hlo, interiorSum, this, sumFrom, hx]
    rfl

section Ordered
variable [LinearOrder K] [IsStrictOrderedRing K]

def PosLevel (l : Level K) : Prop := 0 < l.da ∧ 0 < l.dz ∧ 0 ≤ l.daz ∧ 0 ≤ l.cd

/-- Of `lo` only `0 < lo.dz` is needed; it is given as the `PosLevel` the callers have. -/
theorem cddzI_nonneg {lo up : Level K} (h : PosLevel lo) (h' : PosLevel up) :
    0 ≤ cddzI lo up := by
  obtain ⟨_, hz, _, _⟩ := h
  obtain ⟨_, hz', hdaz, hcd⟩ := h'
  unfold cddzI
  positivity

/-- Row of an averaging system whose old value satisfies `Q`. -/
def AvgRow (Q : K → Prop) (r : Row K) : Prop :=
  MRow r ∧ (r = topRow ∨ (r.a + r.b + r.c = 1 ∧ Q r.y))

theorem AvgRow.brow {m M : K} {r : Row K} (h : AvgRow (fun y => m ≤ y ∧ y ≤ M) r) : BRow m M r := by
  refine ⟨h.1, ?_⟩
  rcases h.2 with rfl | ⟨hs, hy⟩
  · exact Between.zero.of_eq rfl (by simp [topRow])
  · rw [hs]
    exact .one hy

theorem topRow_avg (Q : K → Prop) : AvgRow Q (topRow : Row K) :=
  ⟨by simp [MRow, topRow], .inl rfl⟩

theorem diffRow_avg {dt g g' : K} {l : Level K} {Q : K → Prop} (hdt : 0 ≤ dt) (hg : 0 ≤ g)
    (hg' : 0 ≤ g') (hl : PosLevel l) (hy : Q l.co) : AvgRow Q (diffRow dt g g' l) := by
  obtain ⟨hda, hdz, -, -⟩ := hl
  have hs : (diffRow dt g g' l).a + (diffRow dt g g' l).b + (diffRow dt g g' l).c = 1 := by
    simp only [diffRow]; ring
  have hoff : ∀ {g : K}, 0 ≤ g → -g * dt / l.dz / l.da ≤ 0 := fun hg =>
    div_nonpos_of_nonpos_of_nonneg (div_nonpos_of_nonpos_of_nonneg
      (mul_nonpos_of_nonpos_of_nonneg (neg_nonpos.mpr hg) hdt) hdz.le) hda.le
  exact ⟨MRow.of_sum_pos (hoff hg) (hoff hg') hs one_pos, .inr ⟨hs, hy⟩⟩

theorem interiorRows_avg {dt : K} (hdt : 0 ≤ dt) {ls : List (Level K)} {g : K} (hg : 0 ≤ g)
    {Q : K → Prop} (hpos : ∀ l ∈ ls, PosLevel l) (hQ : ∀ l ∈ ls.dropLast, Q l.co) :
    ∀ r ∈ interiorRows dt g ls, AvgRow Q r := by
  fun_induction interiorRows dt g ls with
  | case1 => simp
  | case2 =>
    rw [List.forall_mem_singleton]
    exact topRow_avg _
  | case3 g l l' rest ih =>
    obtain ⟨hl, hpos'⟩ := List.forall_mem_cons.mp hpos
    have hg' := cddzI_nonneg hl (hpos' l' (by simp))
    rw [List.dropLast_cons_cons, List.forall_mem_cons] at hQ
    rw [List.forall_mem_cons]
    exact ⟨diffRow_avg hdt hg hg' hl hQ.1, ih hg' hpos' hQ.2⟩

theorem diffusionRows_avg {dt : K} (hdt : 0 ≤ dt) {ls : List (Level K)} {Q : K → Prop}
    (hpos : ∀ l ∈ ls, PosLevel l) (hQ : ∀ l ∈ ls.dropLast, Q l.co) :
    ∀ r ∈ diffusionRows dt ls, AvgRow Q r := by
  fun_cases diffusionRows dt ls with
  | case1 => simp
  | case2 =>
    rw [List.forall_mem_singleton]
    exact topRow_avg _
  | case3 l0 l1 rest =>
    obtain ⟨h0, hpos'⟩ := List.forall_mem_cons.mp hpos
    rw [List.dropLast_cons_cons, List.forall_mem_cons] at hQ
    rw [List.forall_mem_cons]
    exact ⟨⟨MRow.of_sum_pos le_rfl le_rfl (by ring) one_pos, .inr ⟨by ring, hQ.1⟩⟩,
      interiorRows_avg hdt (cddzI_nonneg h0 (hpos' l1 (by simp))) hpos' hQ.2⟩

theorem diffusion_levels_bounded {dt m M : K} (hdt : 0 ≤ dt) {ls : List (Level K)}
    (h2 : 2 ≤ ls.length) (hpos : ∀ l ∈ ls, PosLevel l)
    (hb : ∀ l ∈ ls.dropLast, m ≤ l.co ∧ l.co ≤ M) :
    ∀ x ∈ solve (diffusionRows dt ls), m ≤ x ∧ x ≤ M := by
  have hbr : ∀ r ∈ diffusionRows dt ls, BRow m M r := fun r hr =>
    (diffusionRows_avg hdt hpos hb r hr).brow
  match ls, h2 with
  | l0 :: l1 :: rest, _ =>
    have hlast := diffusionRows_getLast dt l0 (l1 :: rest)
    rw [diffusionRows] at hbr hlast ⊢
    refine solve_bounded rfl hbr fun t ht => ?_
    rw [hlast] at ht
    cases ht
    rfl

end Ordered

end Uwg
