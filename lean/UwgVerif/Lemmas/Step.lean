/-
Helper lemmas for composition C (`Props/Step.lean`): taking a successful pass of `Step.step` apart
(`step_ok`: the results of all stages, post-state = `assemble` of them), the per-building loops as `do` blocks
(`glueAll_cons`, `headAll_cons`) and building by building (`glueAll_forall₂`, `headAll_forall₂`), and the
commutation of every stage with the erasure of vegetation data outside the season (`…_bare`).
-/
import UwgVerif.Model.Step
import UwgVerif.Lemmas.Except
import UwgVerif.Lemmas.Forall2
import UwgVerif.Props.SurfFluxEnergy

variable {K : Type} [Field K] [LinearOrder K] [IsStrictOrderedRing K]

namespace Uwg.Canyon

def SolarIn.noVeg (i : SolarIn K) : SolarIn K :=
  { i with roadVeg := 0, vegAlbedo := 0, treeCoverage := 0, vegcover := 0, treeFLat := 0, grassFLat := 0 }

theorem solarcalcs_noVeg (cl : Closure) (S : Sym K) (i : SolarIn K)
    (hoff : i.month < i.vegStart ∨ i.month > i.vegEnd) : solarcalcs cl S i = solarcalcs cl S i.noVeg := by
  simp only [solarcalcs, albRoad, sunlit, roadSolOf, bldSolOf, horSolOf, SolarIn.noVeg, hoff, if_true]

theorem solarcalcs_offseason {cl : Closure} {S : Sym K} {i : SolarIn K} {o : SolarOut K}
    (h : solarcalcs cl S i = .ok o) (hoff : i.month < i.vegStart ∨ i.month > i.vegEnd) :
    o.treeSens = 0 ∧ o.treeLat = 0 := by
  unfold solarcalcs at h
  split at h
  · split at h
    · cases h
    split at h
    · cases h
    cases h
    simp only [sunlit, hoff, if_true, and_self]
  · cases h
    exact ⟨rfl, rfl⟩

end Uwg.Canyon

namespace Uwg.Hvac

theorem bemCalc_returns {phi : K → K → K → K} {i : BemIn K}
    (g1 : ¬ (i.floorHeight = 0 ∨ densDen i = 0 ∨ i.bldDensity = 0)) (g2 : tempsOk i) (g3 : ¬ branchGuard i)
    (g4 : ¬ (h2 i = 0 ∨ humDen i = 0 ∨ i.heateff = 0)) : bemCalc phi i = .ok (bemCore phi i) := by
  simp only [bemCalc, guards, g1, g2, g3, g4, not_true_eq_false, if_false]

end Uwg.Hvac

namespace Uwg.StepProps
open Uwg.Step

variable {S : Sym K} {C : Cfg K} {t : StepTrace} {f : Forcing K} {ct ch cw rt re : K} {di hi : Nat} {rr wr : K}

theorem ensure_eq_ok {c : Prop} [Decidable c] {e : Err} {u : Unit} : ensure c e = .ok u ↔ c :=
  Except.ite_error_right_eq_ok.trans (and_iff_left rfl)

theorem lift_ok {ε α : Type} {f : ε → Err} {x : Except ε α} {a : α} (h : lift f x = .ok a) :
    x = .ok a := by
  cases x with
  | error e => cases h
  | ok b =>
    cases h
    rfl

/-- The results of the stages of a pass on the selected forcing `f` that returned, with those equations
    between them that the property theorems use. -/
structure Stages (S : Sym K) (C : Cfg K) (s : State K) (t : StepTrace) (f : Forcing K) where
  sol : Canyon.SolarOut K
  tr : K
  blds1 : List (Bld K)
  rural : Elem K
  rsm : Rsm.VdmOut K
  hd : List (Bld K) × HeadAcc K
  road : Elem K
  roadT : K
  tl : Urb.UrbOut K
  ab : List (Air.Bld K)
  uc : Air.UcmOut K
  ub : Air.UblOut K
  psy : Option (PsyOut K)
  hsol : solarStage S C t f s.ucm.road = .ok sol
  hglue : glueAll C (dayIdx t) t.hourDay sol.roofRec sol.wallRec C.sch s.blds = .ok blds1
  hrural : ruralStage C t f sol.ruralRec s.rural = .ok rural
  hhd : headAll S C t f s.ucm.canTemp f.hum s.ucm.canWind s.ucm.roadTemp s.ucm.road.emissivity
    { wallTemp := 0, roofTemp := 0, eWall := none } blds1 = .ok hd
  hroad : roadStage C t f sol.roadRec s.ucm.canTemp f.hum s.ucm.canWind s.ucm.roadTemp hd.2 s.ucm.road = .ok road
  huc : Air.ucModel (ucmIn C f s.ucm.canTemp s.ubl.ublTemp roadT road.aeroCond tl.uExch (C.sensanth * tr)
    sol.treeSens) ab = .ok uc
  hpsy : recordStage S t.recorded uc.canTemp f.hum f.pres = .ok psy

def Stages.post {s : State K} (st : Stages S C s t f) : State K :=
  assemble C s f st.sol (C.sensanth * st.tr) st.rural st.rsm st.hd.1 st.road st.roadT st.tl st.uc st.ub st.psy

theorem step_ok {s s' : State K} {r : FRow K} {d : Deep K} (h : step S C s t r d = .ok s') :
    ∃ st : Stages S C s t (forcOf C.par.windMin r d), s' = st.post := by
  unfold step at h
  simp only [Except.bind_eq_ok] at h
  obtain ⟨sol, hsol, tr, _, blds1, hglue, rural, hrural, rsm, _, hd, hhd, road, hroad, roadT, _, tl, _, ab, _,
    uc, huc, ub, _, psy, hpsy, hfin⟩ := h
  cases hfin
  exact ⟨⟨sol, tr, blds1, rural, rsm, hd, road, roadT, tl, ab, uc, ub, psy, hsol, hglue, hrural, hhd, hroad,
    lift_ok huc, hpsy⟩, rfl⟩

theorem glueBld_ok {sc : Sched K} {b b' : Bld K}
    (h : glueBld C di hi rr wr sc b = .ok b') :
    (∃ cool heat fe fl fo fs fg : K,
      look sc.cool di hi = .ok cool ∧ look sc.heat di hi = .ok heat ∧ look sc.elec di hi = .ok fe ∧
      look sc.light di hi = .ok fl ∧ look sc.occ di hi = .ok fo ∧ look sc.swh di hi = .ok fs ∧
      look sc.gas di hi = .ok fg ∧
      b'.swh = sc.vSwh * fs ∧ b'.gas = sc.qGas * fg ∧ b'.vent = sc.vent ∧
      b'.coolSetDay = cool + 273.15 ∧ b'.coolSetNight = cool + 273.15 ∧
      b'.heatSetDay = heat + 273.15 ∧ b'.heatSetNight = heat + 273.15 ∧
      b'.elec = sc.qElec * fe ∧ b'.light = sc.qLight * fl ∧ b'.nocc = sc.nOcc * fo) ∧
    0 ≤ b'.light + b'.elec + b'.qocc ∧ b'.intHeatDay = b'.light + b'.elec + b'.qocc ∧
    b'.intHeatFRad =
      (Sim.loadFractions b'.light b'.elec b'.qocc b'.nocc C.radflight C.radfequip C.latfocc C.sensocc).1 ∧
    b'.intHeatFLat =
      (Sim.loadFractions b'.light b'.elec b'.qocc b'.nocc C.radflight C.radfequip C.latfocc C.sensocc).2 := by
  unfold glueBld at h
  simp only [Except.bind_eq_ok, ensure_eq_ok] at h
  obtain ⟨cool, hc, heat, hh, fe, he, fl, hl, fo, ho, fs, hs, _, _, fg, hg, _, g2, _, _, twx, _, twi, _,
    trx, _, tri, _, hfin⟩ := h
  cases hfin
  exact ⟨⟨cool, heat, fe, fl, fo, fs, fg, hc, hh, he, hl, ho, hs, hg, rfl, rfl, rfl, rfl, rfl, rfl, rfl, rfl,
    rfl, rfl⟩, g2, rfl, rfl, rfl⟩

theorem glueAll_cons {sc : Sched K} {scs : List (Sched K)} {b : Bld K} {bs : List (Bld K)} :
    glueAll C di hi rr wr (sc :: scs) (b :: bs) =
      glueBld C di hi rr wr sc b >>= fun b' => glueAll C di hi rr wr scs bs >>= fun r => pure (b' :: r) := by
  rw [glueAll]
  cases glueBld C di hi rr wr sc b with
  | error e => rfl
  | ok b' => cases glueAll C di hi rr wr scs bs <;> rfl

theorem glueAll_forall₂ :
    ∀ {scs : List (Sched K)} {bs bs' : List (Bld K)}, glueAll C di hi rr wr scs bs = .ok bs' →
      List.Forall₂ (fun b b' => ∃ sc, glueBld C di hi rr wr sc b = .ok b') bs bs'
  | _, [], _, h => by
    simp only [glueAll, Except.ok.injEq] at h
    subst h
    exact .nil
  | [], _ :: _, _, h => by
    simp only [glueAll, reduceCtorEq] at h
  | sc :: scs, b :: bs, _, h => by
    simp only [glueAll_cons, Except.bind_eq_ok, Except.pure_eq_ok] at h
    obtain ⟨b1, h1, r, h2, rfl⟩ := h
    exact .cons ⟨sc, h1⟩ (glueAll_forall₂ h2)

theorem bemCalcFull_ok {i : Hvac.BemIn K} {o : Hvac.BemOut K}
    (h : bemCalcFull S i = .ok o) : ∃ phi, o = Hvac.bemCore phi i ∧ Hvac.bemCalc phi i = .ok o := by
  unfold bemCalcFull at h
  simp only [Except.ite_error_left_eq_ok] at h
  obtain ⟨g1, g2, g3, g4, h⟩ := h
  split at h
  · cases h
  rename_i p _
  obtain ⟨g5, h⟩ := Except.ite_error_left_eq_ok.mp h
  cases h
  exact ⟨fun _ _ _ => p.phi, rfl,
    Hvac.bemCalc_returns g1 (not_not.mp g2) g3 (or_assoc.not.mp (not_or.mpr ⟨g4, g5⟩))⟩

theorem headBld_ok {b b' : Bld K} (h : headBld S C t f ct ch cw rt re b = .ok b') :
    ∃ i phi, b'.out = some (Hvac.bemCore phi i) ∧ Hvac.bemCalc phi i = .ok (Hvac.bemCore phi i) := by
  unfold headBld at h
  simp only [Except.bind_eq_ok] at h
  obtain ⟨_, _, tWall, _, tCeil, _, tMass, _, o, ho, _, _, _, _, _, _, _, _, _, _, hfin⟩ := h
  obtain ⟨phi, rfl, h1⟩ := bemCalcFull_ok ho
  cases hfin
  exact ⟨_, phi, rfl, h1⟩

/-- The joint `match` of `headAll` on the two `t0` is two binds: `t0` (`layerTemp[0]`) fails with `.index` only. -/
theorem headAll_cons {acc : HeadAcc K} {b : Bld K} {bs : List (Bld K)} :
    headAll S C t f ct ch cw rt re acc (b :: bs) = (do
      let b' ← headBld S C t f ct ch cw rt re b
      let tw ← b'.wall.t0
      let tr ← b'.roof.t0
      let p ← headAll S C t f ct ch cw rt re
        { wallTemp := acc.wallTemp + b'.frac * tw, roofTemp := acc.roofTemp + b'.frac * tr,
          eWall := some b'.wall.emissivity } bs
      pure (b' :: p.1, p.2)) := by
  rw [headAll]
  cases headBld S C t f ct ch cw rt re b with
  | error e => rfl
  | ok b' =>
    simp only [Elem.t0, Except.ok_bind]
    cases b'.wall.layers.head? with
    | none => rfl
    | some lw =>
      cases b'.roof.layers.head? with
      | none => rfl
      | some lr =>
        simp only [Except.ok_bind]
        generalize headAll S C t f ct ch cw rt re _ bs = x
        cases x <;> rfl

theorem headAll_forall₂ :
    ∀ {bs : List (Bld K)} {acc : HeadAcc K} {res : List (Bld K) × HeadAcc K},
      headAll S C t f ct ch cw rt re acc bs = .ok res →
      List.Forall₂ (fun b b' => headBld S C t f ct ch cw rt re b = .ok b') bs res.1
  | [], _, _, h => by
    cases h
    exact .nil
  | b :: bs, acc, _, h => by
    simp only [headAll_cons, Except.bind_eq_ok, Except.pure_eq_ok] at h
    obtain ⟨b1, h1, tw, _, tr, _, p, h4, rfl⟩ := h
    exact .cons h1 (headAll_forall₂ h4)

def Off (C : Cfg K) (t : StepTrace) : Prop := t.month < C.par.vegStart ∨ t.month > C.par.vegEnd

/-- The season test of `solarcalcs` (on integers) and of `SurfFlux` (a Boolean) outside the season. -/
theorem Off.solar (hoff : Off C t) :
    ((t.month : Int) < (C.par.vegStart : Int)) ∨ ((t.month : Int) > (C.par.vegEnd : Int)) :=
  hoff.imp Int.ofNat_lt.mpr Int.ofNat_lt.mpr

theorem Off.element (hoff : Off C t) :
    offSeasonElement t.month C.par.vegStart C.par.vegEnd = true := by
  simp only [offSeasonElement, Bool.or_eq_true]
  exact hoff.imp decide_eq_true decide_eq_true

theorem solar_offseason {road : Elem K} {o : Canyon.SolarOut K} (h : solarStage S C t f road = .ok o)
    (hoff : Off C t) : o.treeSens = 0 ∧ o.treeLat = 0 := by
  unfold solarStage at h
  simp only [Except.bind_eq_ok] at h
  obtain ⟨a, _, h2⟩ := h
  exact Canyon.solarcalcs_offseason (lift_ok h2) hoff.solar

theorem surfFlux_offseason {e e' : Elem K} {a : SurfArgs K} (h : e.surfFlux a = .ok e')
    (hh : e.horizontal = true) (hoff : offSeasonElement a.month a.vegStart a.vegEnd = true) :
    e'.solAbs = (1 - e'.albedo) * e'.solRec ∧ e'.lat = 0 := by
  unfold Elem.surfFlux at h
  split at h
  · cases h
  rename_i r hr
  cases h
  obtain ⟨l0, bc, _, _, _, _, h1, h2, _⟩ := SurfFluxEnergy.surfFlux_ok_inv e.surf a r hr
  have hp : surfPartition e.surf a l0.t = surfFluxHorizontal true (surfIn e.surf a l0.t) := by
    unfold surfPartition
    simp only [Elem.surf, hh, if_true, hoff]
  obtain ⟨f1, f2, _⟩ := C18.off_season_formula (surfIn e.surf a l0.t)
  simp only [Elem.after]
  rw [h1, h2, hp, f1, f2]
  -- the soil's latent term is `0 · waterDens · lv` (`waterStorage` is never assigned)
  exact ⟨rfl, by simp [surfIn]⟩

/-! ## Erasing the vegetation data

Outside the season every stage commutes with the erasure. Only two of them read vegetation data at all:
`solarcalcs` (`solar_bare`, from `Canyon.solarcalcs_noVeg`) and `Element.SurfFlux` (`surf_bare`, from
`SurfFluxEnergy.surfflux_offseason_bare`); the other lemmas carry these two through the `do` blocks, statement
by statement. -/

/-- Vegetation data removed from an element. -/
def bareE (e : Elem K) : Elem K := { e with vegcoverage := 0, roadCover := none }
def bareB (b : Bld K) : Bld K := { b with mass := bareE b.mass, wall := bareE b.wall, roof := bareE b.roof }
def bareS (s : State K) : State K :=
  { s with ucm := { s.ucm with road := bareE s.ucm.road }, rural := bareE s.rural, blds := s.blds.map bareB }
def bareC (C : Cfg K) : Cfg K :=
  { C with par := { C.par with vegAlbedo := 0, treeFLat := 0, grassFLat := 0 }, treeCoverage := 0, vegcover := 0 }

theorem solar_bare {road : Elem K} (hoff : Off C t) :
    solarStage S (bareC C) t f (bareE road) = solarStage S C t f road := by
  unfold solarStage
  refine Except.bind_congr fun a _ => congrArg (lift ofCanyon) ?_
  -- both sides are `solarcalcs` of the same erased input
  exact (Canyon.solarcalcs_noVeg .impl S _ hoff.solar).trans (Eq.symm (Canyon.solarcalcs_noVeg .impl S _ hoff.solar))

theorem surf_bare {hr tr bc fx : K} (e : Elem K) (hoff : Off C t) :
    (bareE e).surfFlux (surfArgs (bareC C) t f hr tr wr bc fx) =
      (e.surfFlux (surfArgs C t f hr tr wr bc fx)).map bareE := by
  -- the two calls agree on every non-vegetation field of the element (5) and of the arguments (10):
  -- `bareE` and `bareC` leave those fields as they are, so each equation is `rfl`
  have h := SurfFluxEnergy.surfflux_offseason_bare e.surf (bareE e).surf (surfArgs C t f hr tr wr bc fx)
    (surfArgs (bareC C) t f hr tr wr bc fx) ⟨rfl, rfl, rfl, rfl, rfl⟩
    ⟨rfl, rfl, rfl, rfl, rfl, rfl, rfl, rfl, rfl, rfl⟩ (.inr ⟨hoff.element, hoff.element⟩)
  unfold Elem.surfFlux
  rw [← h]
  cases Uwg.surfFlux e.surf (surfArgs C t f hr tr wr bc fx) <;> rfl

theorem map_pure {β γ : Type} (v : β) (f : β → γ) : (pure v : Except Err β).map f = pure (f v) := rfl

theorem glueBld_bare {sc : Sched K} {b : Bld K} :
    glueBld (bareC C) di hi rr wr sc (bareB b) = (glueBld C di hi rr wr sc b).map bareB := by
  unfold glueBld
  simp only [Except.map_bind, map_pure]
  rfl

theorem glueAll_bare :
    ∀ {scs : List (Sched K)} {bs : List (Bld K)},
      glueAll (bareC C) di hi rr wr scs (bs.map bareB) = (glueAll C di hi rr wr scs bs).map (List.map bareB)
  | scs, [] => by cases scs <;> rfl
  | [], _ :: _ => rfl
  | sc :: scs, b :: bs => by
    simp only [List.map_cons, glueAll_cons, Except.map_bind, map_pure]
    refine Except.bind_map_congr glueBld_bare fun b' => ?_
    exact Except.bind_map_congr glueAll_bare fun r => rfl

theorem ruralStage_bare {sr : K} {e : Elem K} (hoff : Off C t) :
    ruralStage (bareC C) t f sr (bareE e) = (ruralStage C t f sr e).map bareE := by
  unfold ruralStage
  simp only [Except.map_bind]
  exact Except.bind_congr fun t0 _ => surf_bare { e with solRec := sr, infra := _ } hoff

theorem headBld_bare {b : Bld K} (hoff : Off C t) :
    headBld S (bareC C) t f ct ch cw rt re (bareB b) = (headBld S C t f ct ch cw rt re b).map bareB := by
  unfold headBld
  simp only [Except.map_bind, map_pure]
  refine Except.bind_congr fun _ _ => ?_
  refine Except.bind_congr fun tWall _ => ?_
  refine Except.bind_congr fun tCeil _ => ?_
  refine Except.bind_congr fun tMass _ => ?_
  refine Except.bind_congr fun o _ => ?_
  refine Except.bind_congr fun tRoof _ => ?_
  refine Except.bind_congr fun tWall0 _ => ?_
  refine Except.bind_congr fun massT _ => ?_
  refine Except.bind_map_congr (surf_bare { b.roof with infra := _ } hoff) fun roof => ?_
  exact Except.bind_map_congr (surf_bare { b.wall with infra := _ } hoff) fun wall => rfl

theorem headAll_bare (hoff : Off C t) :
    ∀ {bs : List (Bld K)} {acc : HeadAcc K},
      headAll S (bareC C) t f ct ch cw rt re acc (bs.map bareB) =
        (headAll S C t f ct ch cw rt re acc bs).map (fun p => (p.1.map bareB, p.2))
  | [], acc => rfl
  | b :: bs, acc => by
    simp only [List.map_cons, headAll_cons, Except.map_bind, map_pure]
    refine Except.bind_map_congr (headBld_bare hoff) fun b' => ?_
    refine Except.bind_congr fun tw _ => ?_
    refine Except.bind_congr fun tr _ => ?_
    exact Except.bind_map_congr (headAll_bare hoff) fun p => rfl

theorem roadStage_bare {sr : K} {acc : HeadAcc K} {road : Elem K} (hoff : Off C t) :
    roadStage (bareC C) t f sr ct ch cw rt acc (bareE road) =
      (roadStage C t f sr ct ch cw rt acc road).map bareE := by
  unfold roadStage
  cases acc.eWall with
  | none => rfl
  | some ew => exact surf_bare { road with solRec := sr, infra := _ } hoff

theorem airBlds_bare : ∀ {bs : List (Bld K)}, airBlds (bs.map bareB) = airBlds bs
  | [] => rfl
  | b :: bs => by
    simp only [List.map_cons, airBlds, airBlds_bare]
    rfl

end Uwg.StepProps
