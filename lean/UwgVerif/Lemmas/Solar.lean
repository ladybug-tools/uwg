/-
Lemmas for C12: when the two `solarangles` models return and what, the calendar look-up, the two
hour angles written in degrees and their difference, and the elementary trigonometric bounds used
over ℝ.
-/
import UwgVerif.Model.Solar
import UwgVerif.Model.SymbolsReal
import UwgVerif.Lemmas.Except
import Mathlib.Analysis.SpecialFunctions.Trigonometric.Bounds
import Mathlib.Tactic.IntervalCases

namespace Uwg

section generic
variable {K : Type} [Field K] [LinearOrder K]

theorem solaranglesImpl_eq_ok {S : Sym K} {inobis : List Nat} {month day secDay : Int}
    {lat lon gmt ca : K} {o : SolarOut K} :
    solaranglesImpl S inobis month day secDay lat lon gmt ca = .ok o ↔
      (ibisLoop inobis).isSome ∧ ∃ ino, pyIndex inobis (month - 1) = some ino ∧
        ((implOut S ino day secDay lat lon gmt ca).tanzen ≠ 0 ∧ ca ≠ 0) ∧
        implOut S ino day secDay lat lon gmt ca = o := by
  unfold solaranglesImpl
  cases ibisLoop inobis with
  | none => simp
  | some _ =>
    cases pyIndex inobis (month - 1) with
    | none => simp
    | some ino =>
      simp only [Except.ite_error_left_eq_ok, Except.ok.injEq, not_or, Option.isSome_some,
        Option.some.injEq, true_and, exists_eq_left']

theorem solaranglesSpec_eq_ok {S : Sym K} {month day secDay : Int}
    {lat lon tz ca : K} {o : SolarOut K} :
    solaranglesSpec S month day secDay lat lon tz ca = .ok o ↔
      (1 ≤ month ∧ month ≤ 12) ∧
        ((specOut S month day secDay lat lon tz ca).tanzen ≠ 0 ∧ ca ≠ 0) ∧
        specOut S month day secDay lat lon tz ca = o := by
  unfold solaranglesSpec
  simp only [Except.ite_error_left_eq_ok, Except.ok.injEq, not_or, not_lt]

end generic

theorem pyIndex_std (month : Int) (h1 : 1 ≤ month) (h12 : month ≤ 12) :
    pyIndex inobisStd (month - 1) = some (inobisStd.getD (month - 1).toNat 0) := by
  interval_cases month <;> rfl

theorem date_eq_doy_sub_one {month day : Int} {ino : Nat} (h1 : 1 ≤ month) (h12 : month ≤ 12)
    (hino : pyIndex inobisStd (month - 1) = some ino) :
    day + (ino : Int) - 1 = doySpec month day - 1 := by
  rw [pyIndex_std month h1 h12] at hino
  injection hino with hino
  unfold doySpec
  rw [hino]; ring

section hourAngle
variable {K : Type} [Field K] [LinearOrder K] [IsStrictOrderedRing K]

theorem haImplOf_timeOffsetImpl (S : Sym K) (secDay : Int) (e lon gmt : K) :
    haImplOf S secDay (timeOffsetImpl e lon gmt)
      = ((secDay : K) / 240 + e / 4 - lon + 15 * gmt - 180) * S.pi / 180 := by
  unfold haImplOf timeOffsetImpl
  ring

theorem haSpecOf_timeOffsetSpec (S : Sym K) (secDay : Int) (e lon tz : K) :
    haSpecOf S secDay (timeOffsetSpec e lon tz)
      = ((secDay : K) / 240 + e / 4 + lon - 15 * tz - 180) * S.pi / 180 := by
  unfold haSpecOf timeOffsetSpec
  ring

theorem implOut_ha (S : Sym K) (ino : Nat) (day secDay : Int) (lat lon gmt ca : K) :
    (implOut S ino day secDay lat lon gmt ca).ha
      = ((secDay : K) / 240 + (implOut S ino day secDay lat lon gmt ca).eqtime / 4
          - lon + 15 * gmt - 180) * S.pi / 180 :=
  haImplOf_timeOffsetImpl ..

theorem specOut_ha (S : Sym K) (month day secDay : Int) (lat lon tz ca : K) :
    (specOut S month day secDay lat lon tz ca).ha
      = ((secDay : K) / 240 + (specOut S month day secDay lat lon tz ca).eqtime / 4
          + lon - 15 * tz - 180) * S.pi / 180 :=
  haSpecOf_timeOffsetSpec ..

theorem ha_sub (S : Sym K) (ino : Nat) (month day secDay : Int) (lat lon gmt ca : K) :
    (implOut S ino day secDay lat lon gmt ca).ha - (specOut S month day secDay lat lon gmt ca).ha
      = (30 * gmt - 2 * lon) * S.pi / 180
        + ((implOut S ino day secDay lat lon gmt ca).eqtime
          - (specOut S month day secDay lat lon gmt ca).eqtime) / 4 * S.pi / 180 := by
  rw [implOut_ha, specOut_ha]
  ring

end hourAngle

section real
open Real

theorem realSym_pi : realSym.pi = π := rfl

theorem cosZenArg_equator (δ h : ℝ) : cosZenArg realSym (0 * (π / 180)) δ h = cos δ * cos h := by
  simp [cosZenArg, realSym]

/-- On (0, π) the tangent vanishes only at π/2, and there it does: `Real.tan (π/2) = 0` by the
    division convention, which is why the clamp of `tanzenOf` around π/2 matters. -/
theorem tan_ne_zero_of_ne_pi_div_two {z : ℝ} (h0 : 0 < z) (hpi : z < π) (hne : z ≠ π / 2) :
    tan z ≠ 0 := by
  rw [Real.tan_eq_sin_div_cos]
  have hs : 0 < sin z := Real.sin_pos_of_pos_of_lt_pi h0 hpi
  have hc : cos z ≠ 0 := by
    intro hc
    apply hne
    have : cos z = cos (π / 2) := by rw [hc, Real.cos_pi_div_two]
    exact Real.injOn_cos ⟨h0.le, hpi.le⟩ ⟨by positivity, by linarith [Real.pi_pos]⟩ this
  exact div_ne_zero hs.ne' hc

theorem one_sub_sq_div_two_le_cos_of_abs_le {x c : ℝ} (h : |x| ≤ c) : 1 - c ^ 2 / 2 ≤ cos x := by
  have hsq : x ^ 2 ≤ c ^ 2 := sq_le_sq' (neg_le_of_abs_le h) (le_of_abs_le h)
  linarith [Real.one_sub_sq_div_two_le_cos (x := x)]

theorem abs_mul_sin_le {u : ℝ} (hu : |u| ≤ 1) (x : ℝ) : |u * sin x| ≤ |x| := by
  rw [abs_mul]
  exact (mul_le_of_le_one_left (abs_nonneg _) hu).trans Real.abs_sin_le_abs

theorem abs_deg_le {d D : ℝ} (h : |d| ≤ D) : |d * π / 180| ≤ D * π / 180 := by
  have hpi : 0 < π / 180 := by positivity
  rw [mul_div_assoc, mul_div_assoc, abs_mul, abs_of_pos hpi]
  exact mul_le_mul_of_nonneg_right h hpi.le

theorem cos_deg_nonneg {d : ℝ} (h : |d| ≤ 90) : 0 ≤ cos (d * π / 180) := by
  obtain ⟨lo, hi⟩ := abs_le.mp (abs_deg_le h)
  exact Real.cos_nonneg_of_mem_Icc ⟨by linarith, by linarith⟩

/-- A declination within the series' bound has `cos ≥ 0.88`; an hour angle within `0.179` rad of
    `π/2` has `|cos| ≤ 0.179` (written `u · sin x` with `|u| ≤ 1`). The conjuncts are shaped for
    `C12.full_property_false_of_impl`: a zenith cosine `> −1` makes a routine return; the third is
    the gap between the two. -/
theorem cos_gap {δS u x : ℝ} (hδ : |δS| ≤ 488929 / 1000000) (hu : |u| ≤ 1) (hx : |x| ≤ 179 / 1000) :
    -1 < cos δS ∧ -1 < -(u * sin x) ∧ cos δS - -(u * sin x) > 7 / 10 := by
  have h1 := one_sub_sq_div_two_le_cos_of_abs_le hδ
  have h2 := abs_le.mp ((abs_mul_sin_le hu x).trans hx)
  norm_num at h1
  refine ⟨?_, ?_, ?_⟩ <;> linarith

end real
end Uwg
