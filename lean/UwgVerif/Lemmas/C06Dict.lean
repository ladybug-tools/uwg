/-
C06 — association-list lemmas, `getAttrs`, and what a run of property setters reads of its source.
-/
import UwgVerif.Model.Params

namespace Uwg.C06

theorem alookup_aset {β : Type} (k n : Str) (v : β) (l : List (Str × β)) :
    alookup k (aset n v l) = if k = n then some v else alookup k l := by
  induction l with
  | nil => simp [aset, alookup]
  | cons p rest ih =>
    obtain ⟨k', v'⟩ := p
    by_cases h1 : n = k'
    · subst h1
      by_cases h2 : k = n <;> simp [aset, alookup, h2]
    · by_cases h2 : k = k'
      · subst h2
        have : ¬ k = n := fun h => h1 h.symm
        simp [aset, alookup, h1, this]
      · simp [aset, alookup, h1, h2, ih]

theorem alookup_append {β : Type} (k : Str) (l1 l2 : List (Str × β)) :
    alookup k (l1 ++ l2) = (alookup k l1).orElse (fun _ => alookup k l2) := by
  induction l1 with
  | nil => simp [alookup]
  | cons p rest ih =>
    obtain ⟨k', v'⟩ := p
    by_cases h : k = k' <;> simp [alookup, h, ih]

theorem alookup_map_self {β : Type} (f : Str → β) (ns : List Str) (k : Str) :
    alookup k (ns.map fun n => (n, f n)) = if k ∈ ns then some (f k) else none := by
  induction ns with
  | nil => simp [alookup]
  | cons n ns ih =>
    by_cases h : k = n
    · subst h; simp [alookup]
    · simp [alookup, h, ih]

theorem alookup_mem {β : Type} {k : Str} {v : β} {l : List (Str × β)} (h : alookup k l = some v) :
    (k, v) ∈ l := by
  induction l with
  | nil => simp [alookup] at h
  | cons p rest ih =>
    obtain ⟨k', v'⟩ := p
    by_cases hk : k = k'
    · subst hk
      simp [alookup] at h
      subst h
      simp
    · simp [alookup, hk] at h
      exact List.mem_cons_of_mem _ (ih h)

theorem alookup_perm {l1 l2 : List (Str × J)} (h : l1.Perm l2) (hnd : (l1.map Prod.fst).Nodup)
    (k : Str) : alookup k l1 = alookup k l2 := by
  induction h with
  | nil => rfl
  | cons x _ ih =>
    obtain ⟨k', v'⟩ := x
    simp only [List.map_cons, List.nodup_cons] at hnd
    by_cases hk : k = k' <;> simp [alookup, hk, ih hnd.2]
  | swap x y l =>
    obtain ⟨k1, v1⟩ := x
    obtain ⟨k2, v2⟩ := y
    simp only [List.map_cons, List.nodup_cons, List.mem_cons, not_or] at hnd
    have hne : k2 ≠ k1 := hnd.1.1
    by_cases h1 : k = k1
    · subst h1
      have : ¬ k = k2 := fun h => hne h.symm
      simp [alookup, this]
    · simp [alookup, h1]
  | trans h1 _ ih1 ih2 =>
    rw [ih1 hnd, ih2 ((h1.map Prod.fst).nodup_iff.mp hnd)]

theorem getAttrs_returns {st : St} {f : Str → J} {ns : List Str}
    (h : ∀ n ∈ ns, alookup n st = some (f n)) :
    getAttrs st ns = .ok (ns.map fun n => (n, f n)) := by
  induction ns with
  | nil => rfl
  | cons n ns ih =>
    obtain ⟨hn, hns⟩ := List.forall_mem_cons.1 h
    simp [getAttrs, hn, ih hns]

theorem getAttrs_congr {st st' : St} {ns : List Str}
    (h : ∀ n ∈ ns, alookup n st = alookup n st') : getAttrs st ns = getAttrs st' ns := by
  induction ns with
  | nil => rfl
  | cons n ns ih =>
    obtain ⟨hn, hns⟩ := List.forall_mem_cons.1 h
    simp [getAttrs, hn, ih hns]

theorem getAttrs_ok {st : St} {ns : List Str} {r : List (Str × J)} (h : getAttrs st ns = .ok r) :
    ∀ n ∈ ns, ∃ v, alookup n st = some v := by
  induction ns generalizing r with
  | nil => nofun
  | cons x xs ih =>
    unfold getAttrs at h
    split at h
    · cases h
    · rename_i v hv
      split at h
      · cases h
      · rename_i r' hr'
        exact List.forall_mem_cons.2 ⟨⟨v, hv⟩, ih hr'⟩

theorem runSetters_src_ok {src : Str → Except Err J} {ns : List Str} {st st' : St}
    (h : runSetters src ns st = .ok st') : ∀ n ∈ ns, ∃ v, src n = .ok v := by
  induction ns generalizing st with
  | nil => nofun
  | cons x xs ih =>
    unfold runSetters at h
    split at h
    · cases h
    · rename_i v hv
      split at h
      · cases h
      · exact List.forall_mem_cons.2 ⟨⟨v, hv⟩, ih h⟩

theorem runSetters_congr {src src' : Str → Except Err J} {ns : List Str}
    (h : ∀ n ∈ ns, src n = src' n) (st : St) : runSetters src ns st = runSetters src' ns st := by
  induction ns generalizing st with
  | nil => rfl
  | cons n ns ih =>
    obtain ⟨hn, hns⟩ := List.forall_mem_cons.1 h
    simp only [runSetters, hn, ih hns]

end Uwg.C06
