/-
The selection half of the stock model (`Model/Bem.lean`). The stock dictionary is read as a function
(`lookup_aggregate`) and the scan of a well-formed library as a `filterMap` over its zone column, so
that `computeBEM` returns the listed cells of the column in library order, each with the overrides
applied and the summed fraction of its key, or refuses (`computeBEM_wf`, `computeBEM_ok_slot`).
At the end, what the `bld` setter accepts.
-/
import UwgVerif.Model.Bem
import UwgVerif.Lemmas.Except
import Mathlib.Data.List.Nodup
import Mathlib.Data.List.Induction

namespace Uwg.Bem
variable {K : Type}

/-- Totalised `refBEM[i][j][z]` (`none` also when a subscript is out of range). -/
def cellD (row : LibRow K) (j z : Nat) : Option (Arch K) :=
  match row[j]? with
  | none => none
  | some col =>
    match col[z]? with
    | none => none
    | some c => c

theorem cellD_eq (row : LibRow K) (j z : Nat) :
    cellD row j z =
      match cell row j z with
      | .ok c => c
      | .error _ => none := by
  unfold cellD cell
  cases row[j]? with
  | none => rfl
  | some col =>
    dsimp only
    cases col[z]? <;> rfl

theorem cell_ok_cellD {row : LibRow K} {j z : Nat} {c : Option (Arch K)}
    (h : cell row j z = .ok c) : cellD row j z = c := by
  rw [cellD_eq, h]

theorem cellD_eq_some_iff {row : LibRow K} {j z : Nat} {a : Arch K} :
    cellD row j z = some a ↔ cell row j z = .ok (some a) := by
  rw [cellD_eq]
  cases cell row j z with
  | error e => simp only [reduceCtorEq]
  | ok c => simp only [Except.ok.injEq]

/-- `ref_key` of a library cell: its own (type, era index), for the text `bldtype + builtera`. -/
def Arch.key (a : Arch K) : Key := (a.bldtype, a.era)

theorem forall_lt_three {p : Nat → Prop} : (∀ j, j < 3 → p j) ↔ p 0 ∧ p 1 ∧ p 2 := by
  simp [Nat.forall_lt_succ_right, and_assoc]

theorem exists_lt_three {p : Nat → Prop} : (∃ j, j < 3 ∧ p j) ↔ p 0 ∨ p 1 ∨ p 2 := by
  simp [Nat.exists_lt_succ_right, or_assoc]

/-- Slot consistency at zone column `z`: a cell stored in era slot `j` carries era attribute `j`.
    (`_customize_reference_data` derives the slot from the attribute, and the shipped library is
    built that way, so this is an invariant of every library the code can produce.) -/
def SlotOK (z : Nat) (lib : Lib K) : Prop :=
  ∀ row ∈ lib, ∀ j, j < 3 → ∀ a, cellD row j z = some a → a.era = j

def rowCells (z : Nat) (row : LibRow K) : List (Arch K) :=
  (cellD row 0 z).toList ++ ((cellD row 1 z).toList ++ (cellD row 2 z).toList)

/-- The archetypes present at zone column `z`, in scan order (type index, then era index). -/
def colCells (z : Nat) (lib : Lib K) : List (Arch K) := lib.flatMap (rowCells z)

def KeysUnique (z : Nat) (lib : Lib K) : Prop := ((colCells z lib).map Arch.key).Nodup

/-- Every subscript the scan performs is in range. -/
def ShapeOK (z : Nat) (lib : Lib K) : Prop :=
  ∀ row ∈ lib, ∀ j, j < 3 → ∃ c, cell row j z = .ok c

theorem mem_rowCells {z : Nat} {row : LibRow K} {a : Arch K} :
    a ∈ rowCells z row ↔ ∃ j, j < 3 ∧ cellD row j z = some a := by
  simp only [rowCells, List.mem_append, Option.mem_toList, exists_lt_three]

theorem mem_colCells {z : Nat} {lib : Lib K} {a : Arch K} :
    a ∈ colCells z lib ↔ ∃ row ∈ lib, ∃ j, j < 3 ∧ cellD row j z = some a := by
  simp only [colCells, List.mem_flatMap, mem_rowCells]

theorem lookup_some_mem {k : Key} {f : K} {d : List (Key × K)} (h : lookup k d = some f) :
    (k, f) ∈ d := by
  induction d with
  | nil => cases h
  | cons p rest ih =>
    simp only [lookup] at h
    split at h
    · rename_i hk
      cases h
      cases hk
      exact List.mem_cons_self
    · exact List.mem_cons_of_mem _ (ih h)

theorem lookup_none_iff {k : Key} {d : List (Key × K)} :
    lookup k d = none ↔ k ∉ d.map Prod.fst := by
  induction d with
  | nil => simp only [lookup, List.map_nil, List.not_mem_nil, not_false_eq_true]
  | cons p rest ih =>
    rw [lookup, List.map_cons, List.mem_cons, not_or, ← ih]
    split
    · rename_i hk
      simp only [reduceCtorEq, hk, not_true_eq_false, false_and]
    · rename_i hk
      exact (and_iff_right (Ne.symm hk)).symm

theorem lookup_eq_some_of_mem {k : Key} {f : K} {d : List (Key × K)}
    (hn : (d.map Prod.fst).Nodup) (h : (k, f) ∈ d) : lookup k d = some f := by
  induction d with
  | nil => cases h
  | cons p rest ih =>
    simp only [List.map_cons, List.nodup_cons] at hn
    rcases List.mem_cons.1 h with rfl | h
    · simp [lookup]
    · have : p.1 ≠ k := fun e => hn.1 (e ▸ List.mem_map_of_mem (f := Prod.fst) h)
      simp only [lookup, this, if_false, ih hn.2 h]

section Dict
variable [Field K]

theorem lookup_dictAdd {k k' : Key} {f : K} {d : List (Key × K)} :
    lookup k' (dictAdd k f d) =
      if k' = k then some (f + (lookup k d).getD 0) else lookup k' d := by
  induction d with
  | nil => simp only [dictAdd, lookup, eq_comm, Option.getD_none]
  | cons p rest ih =>
    simp only [dictAdd, lookup]
    by_cases h2 : p.1 = k
    · subst h2
      by_cases h : p.1 = k'
      · simp only [if_true, lookup, h, Option.getD_some]
      · simp only [if_true, lookup, h, if_false, Ne.symm h]
    · by_cases h : p.1 = k'
      · subst h
        simp only [h2, if_false, lookup, if_true]
      · simp only [h2, if_false, lookup, h, ih]

theorem mem_keys_dictAdd {k k' : Key} {f : K} {d : List (Key × K)} :
    k' ∈ (dictAdd k f d).map Prod.fst ↔ k' = k ∨ k' ∈ d.map Prod.fst := by
  rw [← not_iff_not, ← lookup_none_iff, lookup_dictAdd, not_or, ← lookup_none_iff]
  split <;> simp [*]

theorem dictAdd_nodup {k : Key} {f : K} {d : List (Key × K)} (hn : (d.map Prod.fst).Nodup) :
    ((dictAdd k f d).map Prod.fst).Nodup := by
  induction d with
  | nil => simp [dictAdd]
  | cons p rest ih =>
    simp only [List.map_cons, List.nodup_cons] at hn
    simp only [dictAdd]
    split
    · exact List.nodup_cons.2 hn
    · rename_i hk
      simp only [List.map_cons, List.nodup_cons, mem_keys_dictAdd, not_or]
      exact ⟨⟨hk, hn.1⟩, ih hn.2⟩

theorem dictAdd_sum {k : Key} {f : K} {d : List (Key × K)} :
    ((dictAdd k f d).map Prod.snd).sum = f + (d.map Prod.snd).sum := by
  induction d with
  | nil => simp [dictAdd]
  | cons p rest ih =>
    simp only [dictAdd]
    split
    · simp only [List.map_cons, List.sum_cons, add_assoc]
    · simp only [List.map_cons, List.sum_cons, ih, add_left_comm]

/-- The fraction `bld_dict[k]` holds after the loop over `self.bld` (`lookup_aggregate`). -/
def fracOf [DecidableEq K] (k : Key) (rows : List (Key × K)) : K :=
  ((rows.filter (fun r => r.1 = k)).map Prod.snd).sum

theorem fracOf_cons [DecidableEq K] (k : Key) (r : Key × K) (rows : List (Key × K)) :
    fracOf k (r :: rows) = (if r.1 = k then r.2 else 0) + fracOf k rows := by
  by_cases h : r.1 = k <;> simp [fracOf, h]

theorem fracOf_of_not_mem [DecidableEq K] {k : Key} {rows : List (Key × K)}
    (h : k ∉ rows.map Prod.fst) : fracOf k rows = 0 := by
  unfold fracOf
  rw [List.filter_eq_nil_iff.2]
  · rfl
  · intro r hr
    simp only [decide_eq_true_eq]
    rintro rfl
    exact h (List.mem_map_of_mem hr)

theorem fracOf_nil [DecidableEq K] (k : Key) : fracOf k ([] : List (Key × K)) = 0 := rfl

theorem fracOf_append [DecidableEq K] (k : Key) (a b : List (Key × K)) :
    fracOf k (a ++ b) = fracOf k a + fracOf k b := by
  simp only [fracOf, List.filter_append, List.map_append, List.sum_append]

theorem fracOf_same_key [DecidableEq K] {k0 : Key} {rows : List (Key × K)}
    (h : ∀ p ∈ rows, p.1 = k0) (k : Key) :
    fracOf k rows = if k0 = k then (rows.map Prod.snd).sum else 0 := by
  unfold fracOf
  split
  · rename_i e
    subst e
    rw [List.filter_eq_self.2 (fun p hp => by simpa using h p hp)]
  · rename_i e
    rw [List.filter_eq_nil_iff.2 (fun p hp => by simpa [h p hp] using e)]
    rfl

theorem aggregate_concat (rows : List (Key × K)) (r : Key × K) :
    aggregate (rows ++ [r]) = dictAdd r.1 r.2 (aggregate rows) :=
  List.foldl_concat ..

theorem aggregate_nodup (rows : List (Key × K)) : ((aggregate rows).map Prod.fst).Nodup := by
  induction rows using List.reverseRec with
  | nil => exact List.nodup_nil
  | append_singleton rows r ih =>
    rw [aggregate_concat]
    exact dictAdd_nodup ih

theorem aggregate_sum (rows : List (Key × K)) :
    ((aggregate rows).map Prod.snd).sum = (rows.map Prod.snd).sum := by
  induction rows using List.reverseRec with
  | nil => rfl
  | append_singleton rows r ih =>
    rw [aggregate_concat, dictAdd_sum, ih, List.map_append, List.sum_append, List.map_singleton,
      List.sum_singleton, add_comm]

variable [DecidableEq K]

theorem lookup_aggregate {k : Key} {rows : List (Key × K)} :
    lookup k (aggregate rows) = if k ∈ rows.map Prod.fst then some (fracOf k rows) else none := by
  induction rows using List.reverseRec generalizing k with
  | nil => rfl
  | append_singleton rows r ih =>
    have hold : (lookup r.1 (aggregate rows)).getD 0 = fracOf r.1 rows := by
      rw [ih]
      split
      · rfl
      · rename_i hm
        exact (fracOf_of_not_mem hm).symm
    rw [aggregate_concat, lookup_dictAdd, hold, ih, fracOf_append, fracOf_cons, fracOf_nil, add_zero]
    simp only [List.map_append, List.mem_append, List.map_singleton, List.mem_singleton]
    by_cases hk : k = r.1
    · subst hk
      simp only [if_true, or_true, add_comm]
    · simp only [hk, Ne.symm hk, if_false, or_false, add_zero]

theorem mem_keys_aggregate {k : Key} {rows : List (Key × K)} :
    k ∈ (aggregate rows).map Prod.fst ↔ k ∈ rows.map Prod.fst := by
  rw [← not_iff_not, ← lookup_none_iff, lookup_aggregate]
  split <;> simp [*]

theorem mem_aggregate {k : Key} {f : K} {rows : List (Key × K)} :
    (k, f) ∈ aggregate rows ↔ k ∈ rows.map Prod.fst ∧ f = fracOf k rows := by
  constructor
  · intro hm
    have := lookup_eq_some_of_mem (aggregate_nodup rows) hm
    rw [lookup_aggregate, Option.ite_none_right_eq_some, Option.some_inj] at this
    exact ⟨this.1, this.2.symm⟩
  · rintro ⟨hk, rfl⟩
    exact lookup_some_mem (by rw [lookup_aggregate, if_pos hk])

end Dict

/-- `h` is a hit of `row`: key and fraction of a listed cell `a` of the zone column, archetype read
    from the era slot that `a`'s own attribute names. -/
def IsHit (d : List (Key × K)) (z : Nat) (row : LibRow K) (h : Hit K) : Prop :=
  ∃ j, j < 3 ∧ ∃ a, cellD row j z = some a ∧ h.key = a.key ∧ lookup a.key d = some h.frac ∧
    cellD row a.era z = some h.src

theorem scanCell_ok {d : List (Key × K)} {z : Nat} {row : LibRow K} {j : Nat} {o : Option (Hit K)}
    (h : scanCell d z row j = .ok o) :
    (∃ c, cell row j z = .ok c) ∧ ∀ x, o = some x → ∃ a, cellD row j z = some a ∧
      x.key = a.key ∧ lookup a.key d = some x.frac ∧ cellD row a.era z = some x.src := by
  unfold scanCell at h
  split at h
  · cases h
  · rename_i h1
    cases h
    exact ⟨⟨_, h1⟩, fun x hx => by cases hx⟩
  · rename_i a h1
    refine ⟨⟨_, h1⟩, fun x hx => ⟨a, cell_ok_cellD h1, ?_⟩⟩
    split at h
    · cases h
      cases hx
    · rename_i f h2
      split at h
      · cases h
      · cases h
      · rename_i b h3
        cases h
        cases hx
        exact ⟨rfl, h2, cell_ok_cellD h3⟩

theorem scanRow_ok {d : List (Key × K)} {z : Nat} {row : LibRow K} {hs : List (Hit K)}
    (h : scanRow d z row = .ok hs) :
    (∀ j, j < 3 → ∃ c, cell row j z = .ok c) ∧ ∀ x ∈ hs, IsHit d z row x := by
  unfold scanRow at h
  split at h
  · cases h
  · rename_i e0
    split at h
    · cases h
    · rename_i e1
      split at h
      · cases h
      · rename_i e2
        cases h
        simp only [forall_lt_three, IsHit, exists_lt_three, List.mem_append, Option.mem_toList]
        refine ⟨⟨(scanCell_ok e0).1, (scanCell_ok e1).1, (scanCell_ok e2).1⟩, ?_⟩
        rintro x (hx | hx | hx)
        · exact Or.inl ((scanCell_ok e0).2 x hx)
        · exact Or.inr (Or.inl ((scanCell_ok e1).2 x hx))
        · exact Or.inr (Or.inr ((scanCell_ok e2).2 x hx))

theorem scan_ok {d : List (Key × K)} {z : Nat} {lib : Lib K} {hs : List (Hit K)}
    (h : scan d z lib = .ok hs) : ShapeOK z lib ∧ ∀ x ∈ hs, ∃ row ∈ lib, IsHit d z row x := by
  induction lib generalizing hs with
  | nil =>
    simp only [scan] at h
    cases h
    exact ⟨fun _ hr => absurd hr List.not_mem_nil, fun _ hx => absurd hx List.not_mem_nil⟩
  | cons row rest ih =>
    simp only [scan] at h
    split at h
    · cases h
    · rename_i er
      split at h
      · cases h
      · rename_i et
        cases h
        simp only [ShapeOK, List.forall_mem_cons, List.mem_append]
        refine ⟨⟨(scanRow_ok er).1, (ih et).1⟩, ?_⟩
        rintro x (hx | hx)
        · exact ⟨row, List.mem_cons_self, (scanRow_ok er).2 x hx⟩
        · obtain ⟨r, hr, hh⟩ := (ih et).2 x hx
          exact ⟨r, List.mem_cons_of_mem _ hr, hh⟩

/-- The hit a cell produces when its own slot is consistent. -/
def hitOf (d : List (Key × K)) (a : Arch K) : Option (Hit K) :=
  (lookup a.key d).map (fun f => ⟨a.key, a, f⟩)

theorem scanCell_wf {d : List (Key × K)} {z : Nat} {row : LibRow K} {j : Nat}
    (hsh : ∃ c, cell row j z = .ok c) (hsl : ∀ a, cellD row j z = some a → a.era = j) :
    scanCell d z row j = .ok ((cellD row j z).bind (hitOf d)) := by
  obtain ⟨c, hc⟩ := hsh
  rw [cell_ok_cellD hc] at hsl ⊢
  unfold scanCell
  rw [hc]
  cases c with
  | none => rfl
  | some a =>
    -- the era slot read on a hit is slot `j` again
    simp only [hsl a rfl, hc, Option.bind_some, hitOf, Arch.key]
    cases lookup (a.bldtype, j) d <;> rfl

theorem scan_wf {d : List (Key × K)} {z : Nat} {lib : Lib K}
    (hsh : ShapeOK z lib) (hsl : SlotOK z lib) :
    scan d z lib = .ok ((colCells z lib).filterMap (hitOf d)) := by
  induction lib with
  | nil => rfl
  | cons row rest ih =>
    simp only [ShapeOK, SlotOK, List.forall_mem_cons, forall_lt_three] at hsh hsl
    obtain ⟨⟨s0, s1, s2⟩, hsh'⟩ := hsh
    obtain ⟨⟨l0, l1, l2⟩, hsl'⟩ := hsl
    have h1 := ih (by simpa only [ShapeOK, forall_lt_three] using hsh')
      (by simpa only [SlotOK, forall_lt_three] using hsl')
    simp only [scan, scanRow, scanCell_wf s0 l0, scanCell_wf s1 l1, scanCell_wf s2 l2, h1,
      colCells, rowCells, List.flatMap_cons, List.filterMap_append]
    congr 2
    cases cellD row 0 z <;> cases cellD row 1 z <;> cases cellD row 2 z <;> rfl

theorem scan_congr {d d' : List (Key × K)} (h : ∀ k, lookup k d = lookup k d') (z : Nat)
    (lib : Lib K) : scan d z lib = scan d' z lib := by
  induction lib with
  | nil => rfl
  | cons row rest ih => simp only [scan, scanRow, scanCell, h, ih]

theorem mem_keys_hits {d : List (Key × K)} {l : List (Arch K)} {k : Key} :
    k ∈ (l.filterMap (hitOf d)).map (·.key) ↔ k ∈ l.map Arch.key ∧ k ∈ d.map Prod.fst := by
  constructor
  · intro h
    obtain ⟨x, hx, rfl⟩ := List.mem_map.1 h
    obtain ⟨a, ha, e⟩ := List.mem_filterMap.1 hx
    obtain ⟨f, hf, rfl⟩ := Option.map_eq_some_iff.1 e
    exact ⟨List.mem_map_of_mem ha, List.mem_map_of_mem (f := Prod.fst) (lookup_some_mem hf)⟩
  · rintro ⟨h1, hk⟩
    obtain ⟨a, ha, rfl⟩ := List.mem_map.1 h1
    obtain ⟨f, hf⟩ := Option.ne_none_iff_exists'.1 (mt lookup_none_iff.1 (not_not.2 hk))
    have : hitOf d a = some ⟨a.key, a, f⟩ := by
      rw [hitOf, hf]
      rfl
    exact List.mem_map.2 ⟨_, List.mem_filterMap.2 ⟨a, ha, this⟩, rfl⟩

/-- A stock row with its dictionary key (era 0 stands in where the era text is not accepted; `keyed`
    refuses such a list). -/
def keyOf (r : Row K) : Key × K := ((r.bldtype, (eraIdx? r.era).getD 0), r.frac)

theorem keyed_eq (bld : List (Row K)) :
    keyed bld =
      if ∀ r ∈ bld, (eraIdx? r.era).isSome then .ok (bld.map keyOf) else .error .value := by
  induction bld with
  | nil => rfl
  | cons r rs ih =>
    simp only [keyed, ih, List.forall_mem_cons]
    cases he : eraIdx? r.era with
    | none => simp
    | some e =>
      simp only [Option.isSome_some, true_and]
      by_cases h : ∀ r ∈ rs, (eraIdx? r.era).isSome
      · simp only [if_pos h, List.map_cons, keyOf, he, Option.getD_some]
      · simp only [if_neg h]

theorem keyed_eq_ok {bld : List (Row K)} {rows : List (Key × K)} :
    keyed bld = .ok rows ↔ (∀ r ∈ bld, (eraIdx? r.era).isSome) ∧ rows = bld.map keyOf := by
  rw [keyed_eq]
  split
  · rename_i h
    rw [Except.ok.injEq, and_iff_right h, eq_comm]
  · rename_i h
    simp [h]

theorem keyOf_fst {r : Row K} {e : Nat} (he : eraIdx? r.era = some e) :
    (keyOf r).1 = (r.bldtype, e) := by simp [keyOf, he]

theorem keyed_fracs {bld : List (Row K)} {rows : List (Key × K)} (h : keyed bld = .ok rows) :
    rows.map Prod.snd = bld.map (·.frac) := by
  rw [(keyed_eq_ok.1 h).2, List.map_map]
  rfl

theorem keyed_keys {bld : List (Row K)} {rows : List (Key × K)} (h : keyed bld = .ok rows)
    (k : Key) :
    k ∈ rows.map Prod.fst ↔ ∃ r ∈ bld, ∃ e, eraIdx? r.era = some e ∧ k = (r.bldtype, e) := by
  obtain ⟨hall, rfl⟩ := keyed_eq_ok.1 h
  rw [List.map_map, List.mem_map]
  constructor
  · rintro ⟨r, hr, rfl⟩
    obtain ⟨e, he⟩ := Option.isSome_iff_exists.1 (hall r hr)
    exact ⟨r, hr, e, he, keyOf_fst he⟩
  · rintro ⟨r, hr, e, he, rfl⟩
    exact ⟨r, hr, keyOf_fst he⟩

section Compute
variable [Field K]

theorem totals_eq (es : List (Entry K)) :
    totals es =
      { rGlaze := (es.map (fun e => e.frac * e.arch.glz)).sum
        shgc := (es.map (fun e => e.frac * e.arch.shgc)).sum
        albWall := (es.map (fun e => e.frac * e.arch.albWall)).sum } := by
  induction es using List.reverseRec with
  | nil => simp [totals]
  | append_singleton es e ih =>
    rw [totals, List.foldl_concat, ← totals, ih]
    simp only [List.map_append, List.sum_append, List.map_singleton, List.sum_singleton]

variable [DecidableEq K]

/-- `total_urban_bld_area`. -/
def area (P : Params K) : K := P.charlength ^ 2 * P.blddensity * P.bldheight / hFloor P

theorem unmatched_nil_iff {rows : List (Key × K)} {hs : List (Hit K)} :
    unmatched (aggregate rows) hs = [] ↔ ∀ k ∈ rows.map Prod.fst, k ∈ hs.map (·.key) := by
  unfold unmatched
  rw [List.filter_eq_nil_iff]
  simp only [mem_keys_aggregate, Bool.not_eq_eq_eq_not, Bool.not_true, List.contains_eq_mem,
    decide_eq_false_iff_not, not_not]

theorem computeBEM_ok {P : Params K} {lib : Lib K} {es : List (Entry K)} {tot : Totals K}
    (h : computeBEM P lib = .ok (es, tot)) :
    tot = totals es ∧ ∃ z rows hs, es = hs.map (mkEntry P (area P)) ∧ zoneIdx? P.zone = some z ∧
      keyed P.bld = .ok rows ∧ scan (aggregate rows) z lib = .ok hs ∧
      (∀ k ∈ rows.map Prod.fst, k ∈ hs.map (·.key)) ∧ hFloor P ≠ 0 := by
  rw [computeBEM, Except.ite_error_left_eq_ok] at h
  obtain ⟨hfl, h⟩ := h
  simp only at h
  split at h
  · cases h
  · rename_i z hz
    split at h
    · cases h
    · rename_i rows hk
      split at h
      · cases h
      · rename_i hs hsc
        obtain ⟨hu, h⟩ := Except.ite_error_right_eq_ok.1 h
        cases h
        exact ⟨rfl, z, rows, hs, rfl, hz, hk, hsc, unmatched_nil_iff.1 hu, hfl⟩

theorem computeBEM_of_scan {P : Params K} {lib : Lib K} {z : Nat} {rows : List (Key × K)}
    {hs : List (Hit K)} (hfl : hFloor P ≠ 0) (hz : zoneIdx? P.zone = some z)
    (hk : keyed P.bld = .ok rows) (hsc : scan (aggregate rows) z lib = .ok hs) :
    computeBEM P lib =
      if ∀ k ∈ rows.map Prod.fst, k ∈ hs.map (·.key) then
        .ok (hs.map (mkEntry P (area P)), totals (hs.map (mkEntry P (area P))))
      else .error .refuse := by
  unfold computeBEM
  rw [if_neg hfl]
  simp only [hz, hk, hsc, area, unmatched_nil_iff]

theorem computeBEM_congr_stock (P : Params K) {bld bld' : List (Row K)} (lib : Lib K)
    (hera : (∀ r ∈ bld, (eraIdx? r.era).isSome) ↔ ∀ r ∈ bld', (eraIdx? r.era).isSome)
    (hkeys : ∀ k, k ∈ (bld.map keyOf).map Prod.fst ↔ k ∈ (bld'.map keyOf).map Prod.fst)
    (hfrac : ∀ k, fracOf k (bld.map keyOf) = fracOf k (bld'.map keyOf)) :
    computeBEM { P with bld := bld } lib = computeBEM { P with bld := bld' } lib := by
  have hl : ∀ k, lookup k (aggregate (bld.map keyOf)) = lookup k (aggregate (bld'.map keyOf)) :=
    fun k => by simp only [lookup_aggregate, hkeys, hfrac]
  unfold computeBEM
  by_cases h : ∀ r ∈ bld, (eraIdx? r.era).isSome
  · simp only [keyed_eq, if_pos h, if_pos (hera.1 h), scan_congr hl, unmatched_nil_iff, hkeys]
    rfl
  · simp only [keyed_eq, if_neg h, if_neg (mt hera.2 h)]
    rfl

def entryOf (P : Params K) (rows : List (Key × K)) (a : Arch K) : Entry K :=
  mkEntry P (area P) ⟨a.key, a, fracOf a.key rows⟩

/-- What `_compute_BEM` selects from a slot-consistent zone column: the listed cells, in library
    order. -/
def selection (P : Params K) (rows : List (Key × K)) (z : Nat) (lib : Lib K) : List (Entry K) :=
  ((colCells z lib).filter fun a => a.key ∈ rows.map Prod.fst).map (entryOf P rows)

theorem mem_selection {P : Params K} {rows : List (Key × K)} {z : Nat} {lib : Lib K} {e : Entry K} :
    e ∈ selection P rows z lib ↔
      ∃ a ∈ colCells z lib, a.key ∈ rows.map Prod.fst ∧ entryOf P rows a = e := by
  simp only [selection, List.mem_map, List.mem_filter, decide_eq_true_eq, and_assoc]

theorem hits_eq_selection (P : Params K) (rows : List (Key × K)) (z : Nat) (lib : Lib K) :
    ((colCells z lib).filterMap (hitOf (aggregate rows))).map (mkEntry P (area P)) =
      selection P rows z lib := by
  rw [selection, List.map_filterMap, ← List.filterMap_eq_map' (f := entryOf P rows),
    List.filterMap_filter]
  refine List.filterMap_congr fun a _ => ?_
  rw [hitOf, lookup_aggregate]
  by_cases h : a.key ∈ rows.map Prod.fst <;> simp [h, entryOf]

theorem selection_perm (P : Params K) {rows : List (Key × K)} {z : Nat} {lib : Lib K}
    (huniq : KeysUnique z lib) (hall : ∀ k ∈ rows.map Prod.fst, k ∈ (colCells z lib).map Arch.key) :
    ((selection P rows z lib).map fun e => (e.arch.key, e.frac)).Perm (aggregate rows) := by
  -- both lists have distinct keys, so it is enough to compare members
  refine (List.perm_ext_iff_of_nodup (.of_map Prod.fst ?_)
    (.of_map Prod.fst (aggregate_nodup rows))).2 ?_
  · rw [selection, List.map_map, List.map_map]
    exact huniq.sublist (List.filter_sublist.map Arch.key)
  · rintro ⟨k, f⟩
    rw [mem_aggregate, List.mem_map]
    constructor
    · rintro ⟨e, he, heq⟩
      obtain ⟨a, -, hka, rfl⟩ := mem_selection.1 he
      cases heq
      exact ⟨hka, rfl⟩
    · rintro ⟨hk, rfl⟩
      obtain ⟨a, ha, rfl⟩ := List.mem_map.1 (hall k hk)
      exact ⟨_, mem_selection.2 ⟨a, ha, hk, rfl⟩, rfl⟩

theorem computeBEM_ok_slot {P : Params K} {lib : Lib K} {es : List (Entry K)} {tot : Totals K}
    {z : Nat} {rows : List (Key × K)} (hz : zoneIdx? P.zone = some z)
    (hk : keyed P.bld = .ok rows) (hslot : SlotOK z lib) (h : computeBEM P lib = .ok (es, tot)) :
    es = selection P rows z lib ∧ tot = totals es ∧
      ∀ k ∈ rows.map Prod.fst, k ∈ (colCells z lib).map Arch.key := by
  obtain ⟨rfl, z', rows', hs, rfl, hz', hk', hsc, hu, -⟩ := computeBEM_ok h
  cases hz.symm.trans hz'
  cases hk.symm.trans hk'
  -- the scan returned, so every subscript it made was in range
  rw [scan_wf (scan_ok hsc).1 hslot] at hsc
  cases hsc
  exact ⟨hits_eq_selection .., rfl, fun k hk => (mem_keys_hits.1 (hu k hk)).1⟩

theorem computeBEM_wf {P : Params K} {lib : Lib K} {z : Nat} {rows : List (Key × K)}
    (hfl : hFloor P ≠ 0) (hz : zoneIdx? P.zone = some z) (hk : keyed P.bld = .ok rows)
    (hshape : ShapeOK z lib) (hslot : SlotOK z lib) :
    computeBEM P lib =
      if ∀ k ∈ rows.map Prod.fst, k ∈ (colCells z lib).map Arch.key then
        .ok (selection P rows z lib, totals (selection P rows z lib))
      else .error .refuse := by
  rw [computeBEM_of_scan hfl hz hk (scan_wf hshape hslot), hits_eq_selection]
  simp only [mem_keys_hits, mem_keys_aggregate]
  refine if_congr ⟨fun h k hk => (h k hk).1, fun h k hk => ⟨h k hk, hk⟩⟩ rfl rfl

end Compute

section Ordered
variable [Field K] [LinearOrder K]

theorem bldSetterLoop_ok {l : List (Row K)} {t t' : K} (h : bldSetterLoop l t = .ok t') :
    (∀ r ∈ l, (eraIdx? r.era).isSome ∧ 0 ≤ r.frac ∧ r.frac ≤ 1) ∧
      t' = t + (l.map (·.frac)).sum := by
  induction l generalizing t with
  | nil =>
    simp only [bldSetterLoop] at h
    cases h
    simp
  | cons r rs ih =>
    simp only [bldSetterLoop, Except.ite_error_left_eq_ok, not_not] at h
    obtain ⟨hera, hfr, h⟩ := h
    obtain ⟨h1, h2⟩ := ih h
    refine ⟨List.forall_mem_cons.2 ⟨⟨?_, hfr⟩, h1⟩, ?_⟩
    · simpa [Option.isSome_iff_ne_none] using hera
    · rw [h2, List.map_cons, List.sum_cons, add_assoc]

theorem bldSetter_ok {bld bld' : List (Row K)} (h : bldSetter bld = .ok bld') :
    bld' = bld ∧ (∀ r ∈ bld, (eraIdx? r.era).isSome ∧ 0 ≤ r.frac ∧ r.frac ≤ 1) ∧
      absK ((bld.map (·.frac)).sum - 1) < 1 / 100 := by
  unfold bldSetter at h
  split at h
  · cases h
  · rename_i t ht
    obtain ⟨h1, rfl⟩ := bldSetterLoop_ok ht
    obtain ⟨hlt, h⟩ := Except.ite_error_right_eq_ok.1 h
    cases h
    rw [zero_add] at hlt
    exact ⟨rfl, h1, hlt⟩

end Ordered

end Uwg.Bem
