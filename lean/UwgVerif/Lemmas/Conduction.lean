import UwgVerif.Model.Conduction
import UwgVerif.Lemmas.Tridiag
import Mathlib.Tactic.LinearCombination

/-!
`Element.Conduction`: every row of the system is a heat balance of one layer (`condRow_sat_iff`),
and the balances of adjacent layers share the flux through their interface, so that they sum to
the two energy statements (`energy_flux_aux`, `energy_deep_aux`). For admissible layers the rows
are `MRow`s, so what `Conduction` returns is the one solution of the system
(`conduction_eq_some`).
-/

namespace Uwg
variable {K : Type} [Field K]

theorem condRows_length (dt : K) (bc : BC K) (gin tprev extra : K) (ls : List (Layer K)) :
    (condRows dt bc gin tprev extra ls).length = ls.length := by
  fun_induction condRows dt bc gin tprev extra ls with
  | case4 _ _ _ _ _ _ _ ih => simp only [List.length_cons, ih]
  | _ => rfl

theorem conduction_returns (dt flx1 : K) (bc : BC K) {ls : List (Layer K)}
    (hlen : 2 ≤ ls.length) :
    conduction dt flx1 bc ls = some (solve (condRows dt bc 0 0 flx1 ls)) :=
  if_neg (not_lt.mpr hlen)

/-- Crank–Nicolson mean of the conductive flux (W m-2) through an interface of conductance `g`,
    from the side with old / new temperature `t` / `x` to the side with `t'` / `x'`. -/
def cnFlux (g t t' x x' : K) : K := g * ((1/2) * (x - x') + (1/2) * (t - t'))

theorem condRow_sat_iff {dt : K} (hdt : dt ≠ 0) {l : Layer K}
    {gin gout tprev tnext extra xprev x xnext : K} :
    (condRow dt gin gout tprev tnext extra l).a * xprev +
        (condRow dt gin gout tprev tnext extra l).b * x +
        (condRow dt gin gout tprev tnext extra l).c * xnext =
      (condRow dt gin gout tprev tnext extra l).y ↔
    l.hcp * (x - l.t) =
      dt * (extra + cnFlux gin tprev l.t xprev x - cnFlux gout l.t tnext x xnext) := by
  refine eq_iff_of_mul_sub hdt ?_
  simp only [condRow, cnFlux]
  linear_combination (x - l.t) * div_mul_cancel₀ l.hcp hdt

theorem cnFlux_zero (t t' x x' : K) : cnFlux 0 t t' x x' = 0 := zero_mul _

theorem energy_flux_aux {dt : K} (hdt : dt ≠ 0) {flx2 : K} {l : Layer K} {rest : List (Layer K)}
    {gin tprev extra xprev : K} {xs : List K}
    (h : Sat xprev (condRows dt (.flux flx2) gin tprev extra (l :: rest)) xs) :
    storedChange (l :: rest) xs =
      dt * (extra + flx2 + cnFlux gin tprev l.t xprev (xs.headD 0)) := by
  induction rest generalizing l gin tprev extra xprev xs with
  | nil =>
    obtain ⟨x, xs, rfl, hx, -⟩ := h.cons_elim
    have hb := (condRow_sat_iff hdt).mp hx
    rw [cnFlux_zero] at hb
    simp only [storedChange, List.headD_cons]
    linear_combination hb
  | cons l' rest ih =>
    obtain ⟨x, xs, rfl, hx, h'⟩ := h.cons_elim
    have hb := (condRow_sat_iff hdt).mp hx
    simp only [storedChange, List.headD_cons]
    linear_combination hb + ih h'

/-- Conductive heat flow (W m-2, Crank–Nicolson mean of old and new profile) from the
    second-to-last layer into the last (deep) layer. -/
def deepFlux : List (Layer K) → List K → K
  | [l, l'], [x, x'] => tcp l l' * ((1/2) * (x - x') + (1/2) * (l.t - l'.t))
  | _ :: l' :: l'' :: ls, _ :: x' :: xs => deepFlux (l' :: l'' :: ls) (x' :: xs)
  | _, _ => 0

theorem energy_deep_aux {dt : K} (hdt : dt ≠ 0) {temp2 : K} {l l' : Layer K}
    {rest : List (Layer K)} {gin tprev extra xprev : K} {xs : List K}
    (h : Sat xprev (condRows dt (.deep temp2) gin tprev extra (l :: l' :: rest)) xs) :
    storedChange ((l :: l' :: rest).dropLast) xs =
      dt * (extra + cnFlux gin tprev l.t xprev (xs.headD 0) - deepFlux (l :: l' :: rest) xs) ∧
    xs.getLast? = some temp2 := by
  induction rest generalizing l l' gin tprev extra xprev xs with
  | nil =>
    obtain ⟨x, x', rfl⟩ := List.length_eq_two.mp h.length_eq
    have hb := (condRow_sat_iff hdt).mp h.1
    have hx' : x' = temp2 := by simpa [Sat] using h.2.1
    simp only [List.dropLast, storedChange, deepFlux, List.headD_cons, add_zero, cnFlux] at hb ⊢
    exact ⟨by linear_combination hb, by simp [hx']⟩
  | cons l'' rest ih =>
    obtain ⟨x, xs, rfl, hx, h'⟩ := h.cons_elim
    have hb := (condRow_sat_iff hdt).mp hx
    obtain ⟨ihE, ihL⟩ := ih h'
    obtain ⟨x', xs, rfl, -, -⟩ := h'.cons_elim
    refine ⟨?_, by rw [List.getLast?_cons_cons]; exact ihL⟩
    simp only [List.dropLast_cons_cons, storedChange, deepFlux, List.headD_cons] at hb ihE ⊢
    linear_combination hb + ihE

section Ordered
variable [LinearOrder K] [IsStrictOrderedRing K]

/-- Physical admissibility of a layering. -/
def PosLayers (ls : List (Layer K)) : Prop := ∀ l ∈ ls, 0 < l.d ∧ 0 < l.k ∧ 0 < l.c

/-- Here and in `condRow_mrow` the hypothesis on a layer is its whole entry of `PosLayers`, as the
    callers have it: `tcp` does not depend on `c`, and `k` enters a row only through `gin` and
    `gout`. -/
theorem tcp_pos {l l' : Layer K} (h : 0 < l.d ∧ 0 < l.k ∧ 0 < l.c)
    (h' : 0 < l'.d ∧ 0 < l'.k ∧ 0 < l'.c) : 0 < tcp l l' := by
  unfold tcp
  obtain ⟨hd, hk, _⟩ := h
  obtain ⟨hd', hk', _⟩ := h'
  positivity

theorem condRow_mrow {dt gin gout tprev tnext extra : K} {l : Layer K} (hdt : 0 < dt)
    (hl : 0 < l.d ∧ 0 < l.k ∧ 0 < l.c) (hgin : 0 ≤ gin) (hgout : 0 ≤ gout) :
    MRow (condRow dt gin gout tprev tnext extra l) :=
  MRow.of_sum_pos (h := l.hcp / dt)
    (mul_nonpos_of_nonneg_of_nonpos one_half_pos.le (neg_nonpos.mpr hgin))
    (mul_nonpos_of_nonneg_of_nonpos one_half_pos.le (neg_nonpos.mpr hgout))
    (by simp only [condRow]; ring) (div_pos (mul_pos hl.2.2 hl.1) hdt)

theorem condRows_mrows {dt : K} {bc : BC K} (hdt : 0 < dt) {ls : List (Layer K)}
    {gin tprev extra : K} (hgin : 0 ≤ gin) (hpos : PosLayers ls) :
    ∀ r ∈ condRows dt bc gin tprev extra ls, MRow r := by
  fun_induction condRows dt bc gin tprev extra ls with
  | case1 => simp
  | case2 gin tprev extra l flx2 =>
    rw [List.forall_mem_singleton]
    exact condRow_mrow hdt (hpos l (by simp)) hgin le_rfl
  | case3 =>
    rw [List.forall_mem_singleton]
    exact MRow.of_sum_pos (h := 1) le_rfl le_rfl (by ring) one_pos
  | case4 gin tprev extra l l' rest g ih =>
    obtain ⟨hl, hpos'⟩ := List.forall_mem_cons.mp hpos
    have hg := tcp_pos hl (hpos' l' (by simp))
    rw [List.forall_mem_cons]
    exact ⟨condRow_mrow hdt hl hgin hg.le, ih hg.le hpos'⟩

theorem conduction_eq_some {dt : K} (hdt : 0 < dt) {ls : List (Layer K)} (hpos : PosLayers ls)
    (hlen : 2 ≤ ls.length) (flx1 : K) (bc : BC K) (xs : List K) :
    conduction dt flx1 bc ls = some xs ↔ Sat 0 (condRows dt bc 0 0 flx1 ls) xs := by
  rw [conduction_returns dt flx1 bc hlen, Option.some_inj, eq_comm]
  exact (sat_iff (pivots_of_mrows _ (condRows_mrows hdt le_rfl hpos)) 0 xs).symm

end Ordered
end Uwg
