/-
Lemmas for the clock model (C04, reused by the driver of C02). Inside the year the clock's state is `trueCalendar t`
at the instant `t` reached (`Clock.update_trueCalendar`, `Clock.run_trueCalendar`), so what holds of the clock is a
fact about `trueCalendar t` (`trueCalendar_invariant`). Whatever quantifies over the timestep and the number of steps
is arithmetic and induction; the finite facts about the two month tables (the code's cumulative `inobis`, the
specification's `mdays`) are closed by kernel evaluation, over the 12 months, the 365 days or the 12×31 dates.

Facts about `trueCalendar t` are stated for a variable instant `t` and instantiated at `t = d * 86400 + ..`. What
this avoids is a definitional-equality check by the kernel (`rfl`, `show`, `exact` after `rw`) between two terms that
contain `d * 86400` and are not syntactically equal: there the kernel evaluates `d * 86400` with `d` free by peeling
the numeral one unit at a time. Unfolding `trueCalendar` at such a `t` and rewriting on (`C04.year_end`) is harmless.
-/
import UwgVerif.Model.Clock

namespace Uwg

/-- A date of the non-leap calendar. -/
def validDate (M D : Nat) : Prop := 1 ≤ M ∧ M ≤ 12 ∧ 1 ≤ D ∧ D ≤ monthLen M

instance (M D : Nat) : Decidable (validDate M D) := by unfold validDate; infer_instance

/-- 0-based day of year of a date, from the month lengths (specification side). -/
def dayOfYear0 (M D : Nat) : Nat := daysBefore M + D - 1

theorem trueCalendar_month (t : Nat) : (trueCalendar t).month = (monthDay (t / 86400)).1 := rfl

theorem trueCalendar_day (t : Nat) : (trueCalendar t).day = (monthDay (t / 86400)).2 := rfl

theorem trueCalendar_julian (t : Nat) : (trueCalendar t).julian = t / 86400 := rfl

theorem trueCalendar_secDay (t : Nat) : (trueCalendar t).secDay = t % 86400 := rfl

theorem trueCalendar_hourDay (t : Nat) : (trueCalendar t).hourDay = t % 86400 / 3600 := rfl

theorem monthLen_table : ∀ M, M < 13 → monthLen M ≤ 31 ∧ daysBefore M + monthLen M ≤ 365 ∧
    (1 ≤ M → inobis.getD (M - 1) 0 = daysBefore M) := by
  decide

/-- Crossing midnight inside the year: the code's 12-way scan against `inobis`, started from
`(month, day + 1)`, lands on the calendar date of the next day. -/
theorem monthScan_next_day : ∀ doy, doy < 364 →
    monthScan (doy + 1) inobis ((monthDay doy).1, (monthDay doy).2 + 1) = monthDay (doy + 1) := by
  decide +kernel

theorem monthDay_table : ∀ doy, doy < 365 →
    validDate (monthDay doy).1 (monthDay doy).2 ∧
    dayOfYear0 (monthDay doy).1 (monthDay doy).2 = doy := by
  decide +kernel

theorem validDate_bounds {M D : Nat} (h : validDate M D) : M < 13 ∧ D < 32 := by
  unfold validDate at h
  have := (monthLen_table M (by omega)).1
  omega

theorem dayOfYear0_lt {M D : Nat} (h : validDate M D) : dayOfYear0 M D < 365 := by
  have := (monthLen_table M (validDate_bounds h).1).2.1
  unfold validDate at h
  unfold dayOfYear0
  omega

theorem dvd_86400 {dt : Nat} (h : dt ∣ 3600) : dt ∣ 86400 := Nat.dvd_trans h ⟨24, rfl⟩

theorem dvd_days {dt : Nat} (h : dt ∣ 3600) (d : Nat) : dt ∣ d * 86400 :=
  Nat.dvd_trans (dvd_86400 h) ⟨d, Nat.mul_comm _ _⟩

theorem dvd_instant {dt : Nat} (h : dt ∣ 3600) (d k : Nat) : dt ∣ d * 86400 + k * dt :=
  Nat.dvd_add (dvd_days h d) ⟨k, Nat.mul_comm _ _⟩

theorem add_le_of_dvd_lt {dt s n : Nat} (hs : dt ∣ s) (hn : dt ∣ n) (h : s < n) : s + dt ≤ n := by
  obtain ⟨a, rfl⟩ := hs
  obtain ⟨b, rfl⟩ := hn
  have hab : a < b := Nat.lt_of_mul_lt_mul_left h
  calc dt * a + dt = dt * (a + 1) := by rw [Nat.mul_succ]
    _ ≤ dt * b := Nat.mul_le_mul_left dt hab

namespace Clock

theorem init_table : ∀ M, M < 13 → ∀ D, D < 32 → validDate M D →
    Clock.init M D = trueCalendar (dayOfYear0 M D * 86400) := by
  decide +kernel

theorem init_eq_trueCalendar {M D : Nat} (h : validDate M D) :
    Clock.init M D = trueCalendar (dayOfYear0 M D * 86400) :=
  init_table M (validDate_bounds h).1 D (validDate_bounds h).2 h

theorem init_julian {M D : Nat} (h : validDate M D) : (Clock.init M D).julian = dayOfYear0 M D := by
  rw [init_eq_trueCalendar h, trueCalendar_julian, Nat.mul_div_cancel _ (by decide)]

theorem create_eq (dt M D : Nat) :
    Clock.create dt M D =
      if 0 < dt ∧ dt ∣ 3600 then .ok (Clock.init M D) else .error (if dt = 0 then .zerodiv else .timestep) := by
  unfold Clock.create
  simp only [Nat.dvd_iff_mod_eq_zero, Nat.pos_iff_ne_zero]
  by_cases h0 : dt = 0
  · simp [h0]
  · by_cases h : 3600 % dt = 0 <;> simp [h0, h]

theorem create_raises {dt : Nat} (M D : Nat) (h : ¬ (0 < dt ∧ dt ∣ 3600)) :
    ∃ e, Clock.create dt M D = .error e :=
  ⟨_, by rw [create_eq, if_neg h]⟩

theorem create_ok {dt M D : Nat} {c : Clock} (h : Clock.create dt M D = .ok c) : 0 < dt ∧ dt ∣ 3600 := by
  rw [create_eq] at h
  split at h
  · assumption
  · cases h

theorem update_trueCalendar {dt t : Nat} (hdt : dt ∣ 3600) (hdiv : dt ∣ t) (hlt : t + dt < 365 * 86400) :
    Clock.update dt (trueCalendar t) = some (trueCalendar (t + dt)) := by
  have h86 := dvd_86400 hdt
  have hle : t % 86400 + dt ≤ 86400 :=
    add_le_of_dvd_lt ((Nat.dvd_mod_iff h86).2 hdiv) h86 (Nat.mod_lt _ (by decide))
  by_cases hmid : t % 86400 + dt = 86400
  · have e1 : (t + dt) / 86400 = t / 86400 + 1 := by omega
    have e2 : (t + dt) % 86400 = 0 := by omega
    simp only [Clock.update, trueCalendar, hmid, e1, e2, if_true, monthScan_next_day (t / 86400) (by omega)]
    simp
  · have e1 : (t + dt) / 86400 = t / 86400 := by omega
    have e2 : (t + dt) % 86400 = t % 86400 + dt := by omega
    have hng : ¬ (t % 86400 + dt > 86400) := by omega
    simp only [Clock.update, trueCalendar, hmid, e1, e2, if_false, hng]

theorem run_succ_last (dt k : Nat) (c : Clock) :
    Clock.run dt (k + 1) c = (Clock.run dt k c).bind (Clock.update dt) := by
  induction k generalizing c with
  | zero => simp [Clock.run]
  | succ k ih =>
    rw [Clock.run, Clock.run]
    cases Clock.update dt c with
    | none => rfl
    | some c' => exact ih c'

theorem run_trueCalendar {dt : Nat} (hdt : dt ∣ 3600) :
    ∀ k t, dt ∣ t → t + k * dt < 365 * 86400 →
      Clock.run dt k (trueCalendar t) = some (trueCalendar (t + k * dt)) := by
  intro k
  induction k with
  | zero => intro t _ _; simp [Clock.run]
  | succ k ih =>
    intro t hdiv hlt
    rw [Nat.succ_mul] at hlt
    rw [Clock.run, update_trueCalendar hdt hdiv (by omega), Option.bind_some,
      ih (t + dt) (Nat.dvd_add hdiv (Nat.dvd_refl dt)) (by omega), Nat.succ_mul]
    congr 2
    omega

end Clock

/-- `c` only abbreviates `trueCalendar t` (callers pass `_ rfl`): the conclusion is then, word for word, what
`C04.clock_invariant` says of the clock it finds. -/
theorem trueCalendar_invariant {dt t : Nat} (hdt : dt ∣ 3600) (hdiv : dt ∣ t) (hlt : t < 365 * 86400) :
    ∀ c, c = trueCalendar t →
      validDate c.month c.day ∧
      c.julian = inobis.getD (c.month - 1) 0 + c.day - 1 ∧
      c.julian = dayOfYear0 c.month c.day ∧
      c.secDay < 86400 ∧ dt ∣ c.secDay ∧ c.hourDay = c.secDay / 3600 ∧ c.hourDay < 24 := by
  rintro _ rfl
  obtain ⟨h1, h2⟩ := monthDay_table (t / 86400) (by omega)
  have h3 := (monthLen_table _ (validDate_bounds h1).1).2.2 h1.1
  rw [trueCalendar_month, trueCalendar_day, trueCalendar_julian, trueCalendar_secDay, trueCalendar_hourDay,
    h3]
  exact ⟨h1, h2.symm, h2.symm, Nat.mod_lt _ (by decide), (Nat.dvd_mod_iff (dvd_86400 hdt)).2 hdiv, rfl,
    by omega⟩

theorem weekdayOf_add_seven (j : Nat) : weekdayOf (j + 7) = weekdayOf j := by
  show (weekdayOf j).next.next.next.next.next.next.next = weekdayOf j
  cases weekdayOf j <;> rfl

end Uwg
