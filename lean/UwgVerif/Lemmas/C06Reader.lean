/-
C06 — the reader processes a file block by block: filler rows change nothing, an entry block performs one
dictionary assignment. From this, layout invariance (`reader_layout_invariant`). At the end: the reader before
the repair never leaves a row it cannot parse.
-/
import UwgVerif.Model.Reader
import UwgVerif.Lemmas.C06Dict

namespace Uwg.C06

def IsFiller (row : Row) : Prop :=
  row = [] ∨ ∃ k cells, row = k :: cells ∧ '#' ∈ clean k

/-- rows of a `bld` block: each is a type row with a well-formed triple -/
def bldTriples : List Row → Option (List J)
  | [] => some []
  | row :: rows =>
    if isTypeRow (row.map clean) then
      match bldTriple (row.map clean), bldTriples rows with
      | .ok t, some ts => some (t :: ts)
      | _, _ => none
    else none

/-- one parameter entry of a file, as the block of rows that spells it -/
inductive Entry
  | scalar (row : Row)
  | sch (hdr r1 r2 r3 : Row)
  | bld (hdr : Row) (rows : List Row)

def Entry.rows : Entry → List Row
  | .scalar row => [row]
  | .sch hdr r1 r2 r3 => [hdr, r1, r2, r3]
  | .bld hdr rows => hdr :: rows

/-- the assignment an entry stands for (`none`: the block is not a well-formed entry). It only depends
    on the *cleaned* cells (lower-cased, spaces removed) and, for schedules, on the raw value cells through
    `float()`. -/
def Entry.sem : Entry → Option (Str × J)
  | .scalar row =>
    if isTypeRow (row.map clean) then none else
    match classify (row.map clean) with
    | .store k v => some (k, v)
    | _ => none
  | .sch hdr r1 r2 r3 =>
    match classify (hdr.map clean), schRows [r1, r2, r3] with
    | .sch k, .ok m => some (k, .list m)
    | _, _ => none
  | .bld hdr rows =>
    match classify (hdr.map clean), bldTriples rows with
    | .bldHdr, some ts => some (cs! "bld", .list ts)
    | _, _ => none

inductive Piece
  | filler (row : Row)
  | entry (e : Entry)

def Piece.rows : Piece → List Row
  | .filler row => [row]
  | .entry e => e.rows

def Piece.WF : Piece → Prop
  | .filler row => IsFiller row
  | .entry e => e.sem.isSome

def render (ps : List Piece) : List Row := ps.flatMap Piece.rows

def sems : List Piece → List (Str × J)
  | [] => []
  | .filler _ :: ps => sems ps
  | .entry e :: ps => match e.sem with
                      | some kv => kv :: sems ps
                      | none => sems ps

/-- Python's `d[k] = v` for each pair in turn -/
def assign (d : Dict) (kvs : List (Str × J)) : Dict := kvs.foldl (fun acc kv => aset kv.1 kv.2 acc) d

theorem sems_cons (p : Piece) (ps : List Piece) : sems (p :: ps) = sems [p] ++ sems ps := by
  cases p with
  | filler _ => rfl
  | entry e => simp only [sems]; cases e.sem <;> rfl

theorem hash_not_type : ∀ k ∈ REF_BLDTYPES, '#' ∉ k := by decide

theorem filler_facts {row : Row} (h : IsFiller row) :
    isTypeRow (row.map clean) = false ∧ classify (row.map clean) = .skip := by
  rcases h with h | ⟨k, cells, h, hk⟩
  · subst h; exact ⟨rfl, rfl⟩
  · subst h
    constructor
    · simp only [List.map, isTypeRow, decide_eq_false_iff_not]
      intro hm
      exact hash_not_type _ hm hk
    · simp [classify, hk]

theorem rd_step_top (pend : Option (List J)) (row : Row) (rest : List Row) (d : Dict)
    (ht : isTypeRow (row.map clean) = false) :
    rd pend (row :: rest) d =
      (match classify (row.map clean) with
       | .skip => rd none rest (flush pend d)
       | .store k v => rd none rest (aset k v (flush pend d))
       | .fail e => .error e
       | .bldHdr => rd (some []) rest (flush pend d)
       | .sch k =>
         match rest with
         | r1 :: r2 :: r3 :: rest' =>
           match schRows [r1, r2, r3] with
           | .error e => .error e
           | .ok m => rd none rest' (aset k (.list m) (flush pend d))
         | _ =>
           match schRows rest with
           | .error e => .error e
           | .ok m => .ok (aset k (.list m) (flush pend d))) := by
  rw [rd]
  · rfl
  · intro acc _ h
    rw [ht] at h
    cases h

theorem rd_step_bld (acc : List J) (row : Row) (rest : List Row) (d : Dict) (t : J)
    (ht : isTypeRow (row.map clean) = true) (h : bldTriple (row.map clean) = .ok t) :
    rd (some acc) (row :: rest) d = rd (some (acc ++ [t])) rest d := by
  simp only [rd, ht, h]

theorem rd_bld_rows (rest : List Row) (d : Dict) :
    ∀ (rows : List Row) (acc ts : List J), bldTriples rows = some ts →
      rd (some acc) (rows ++ rest) d = rd (some (acc ++ ts)) rest d := by
  intro rows
  induction rows with
  | nil => intro acc ts h; simp [bldTriples] at h; subst h; simp
  | cons row rows ih =>
    intro acc ts h
    unfold bldTriples at h
    split at h
    · rename_i htype
      split at h
      · rename_i t ts' ht hts
        cases h
        rw [List.cons_append, rd_step_bld acc row _ d t htype ht, ih _ _ hts]
        simp
      · cases h
    · cases h

def Act.opens : Act → Bool
  | .sch _ | .bldHdr => true
  | _ => false

/-- only the keys `schtraffic` and `bld` open a block, and neither is a reference building type -/
theorem opens_not_type {r : Row} (h : (classify r).opens = true) : isTypeRow r = false := by
  cases r with
  | nil => rfl
  | cons k cells =>
    by_cases h2 : k = cs! "schtraffic"
    · subst h2; simp only [isTypeRow]; decide
    by_cases h3 : k = cs! "bld"
    · subst h3; simp only [isTypeRow]; decide
    -- every other key is skipped, stored or refused
    exfalso
    revert h
    simp only [classify, if_neg h2, if_neg h3]
    split
    · nofun
    split
    · split <;> nofun
    split
    · split
      · nofun
      split
      · nofun
      split <;> nofun
    split <;> nofun

/-- Every well-formed piece is consumed entirely and performs its assignment on the *effective* dictionary
    (`flush pend d`: the dictionary with a pending `bld` block written back). -/
theorem rd_piece (p : Piece) (hp : p.WF) (pend : Option (List J)) (rest : List Row) (d : Dict) :
    ∃ pend' d', rd pend (p.rows ++ rest) d = rd pend' rest d' ∧
      flush pend' d' = assign (flush pend d) (sems [p]) := by
  cases p with
  | filler row =>
    obtain ⟨h1, h2⟩ := filler_facts hp
    refine ⟨none, flush pend d, ?_, rfl⟩
    show rd pend (row :: rest) d = _
    rw [rd_step_top pend row rest d h1, h2]
  | entry e =>
    cases e with
    | scalar row =>
      simp only [Piece.WF, Entry.sem] at hp
      split at hp
      · cases hp
      · rename_i htype
        split at hp
        · rename_i k v hc
          refine ⟨none, aset k v (flush pend d), ?_, ?_⟩
          · show rd pend (row :: rest) d = _
            rw [rd_step_top pend row rest d (by simpa using htype), hc]
          · simp [sems, assign, Entry.sem, htype, hc, flush]
        · cases hp
    | sch hdr r1 r2 r3 =>
      simp only [Piece.WF, Entry.sem] at hp
      split at hp
      · rename_i k m hc hs
        refine ⟨none, aset k (.list m) (flush pend d), ?_, ?_⟩
        · show rd pend (hdr :: r1 :: r2 :: r3 :: rest) d = _
          rw [rd_step_top pend hdr _ d (opens_not_type (by rw [hc]; rfl)), hc]
          simp only [hs]
        · simp [sems, assign, Entry.sem, hc, hs, flush]
      · cases hp
    | bld hdr rows =>
      simp only [Piece.WF, Entry.sem] at hp
      split at hp
      · rename_i ts hc hs
        refine ⟨some ts, flush pend d, ?_, ?_⟩
        · show rd pend (hdr :: (rows ++ rest)) d = _
          rw [rd_step_top pend hdr _ d (opens_not_type (by rw [hc]; rfl)), hc]
          exact rd_bld_rows rest (flush pend d) rows [] ts hs
        · simp [sems, assign, Entry.sem, hc, hs, flush]
      · cases hp

theorem rd_pieces (ps : List Piece) (hp : ∀ p ∈ ps, p.WF) (tail : List Row) :
    ∀ (pend : Option (List J)) (d : Dict),
    ∃ pend' d', rd pend (render ps ++ tail) d = rd pend' tail d' ∧
      flush pend' d' = assign (flush pend d) (sems ps) := by
  induction ps with
  | nil => intro pend d; exact ⟨pend, d, by simp [render], rfl⟩
  | cons p ps ih =>
    intro pend d
    obtain ⟨hp1, hps⟩ := List.forall_mem_cons.1 hp
    obtain ⟨pend1, d1, h1, f1⟩ := rd_piece p hp1 pend (render ps ++ tail) d
    obtain ⟨pend2, d2, h2, f2⟩ := ih hps pend1 d1
    refine ⟨pend2, d2, ?_, ?_⟩
    · rw [show render (p :: ps) = p.rows ++ render ps from rfl, List.append_assoc, h1, h2]
    · rw [f2, f1, sems_cons p ps]
      exact List.foldl_append.symm

theorem readInput_render (ps : List Piece) (hp : ∀ p ∈ ps, p.WF) :
    readInput (render ps) = .ok (assign [] (sems ps)) := by
  obtain ⟨pend', d', h1, h2⟩ := rd_pieces ps hp [] none []
  rw [List.append_nil] at h1
  rw [readInput, h1, ← show flush pend' d' = assign [] (sems ps) from h2]
  cases pend' <;> rfl

theorem alookup_assign (k : Str) (kvs : List (Str × J)) :
    ∀ d, (kvs.map Prod.fst).Nodup →
      alookup k (assign d kvs) = (alookup k kvs).orElse (fun _ => alookup k d) := by
  induction kvs with
  | nil => intro d _; simp [assign, alookup]
  | cons kv kvs ih =>
    intro d hnd
    obtain ⟨k', v'⟩ := kv
    simp only [List.map_cons, List.nodup_cons] at hnd
    obtain ⟨hnot, hnd'⟩ := hnd
    have := ih (aset k' v' d) hnd'
    simp only [assign, List.foldl_cons] at this ⊢
    rw [this, alookup_aset]
    by_cases hk : k = k'
    · subst hk
      have hnone : alookup k kvs = none := by
        cases h : alookup k kvs with
        | none => rfl
        | some v =>
          exact absurd (List.mem_map_of_mem (f := Prod.fst) (alookup_mem h)) hnot
      simp [alookup, hnone]
    · simp [alookup, hk]

/-- Before the repair a row whose `if/elif` chain fails was printed and read again: the cursor stays on
    it for every amount of fuel, whatever follows. -/
theorem rdAsis_stuck {row : Row} {e : Err} (hc : classify (row.map clean) = .fail e) (rest : List Row) :
    ∀ (fuel : Nat) (d : Dict), rdAsis fuel (row :: rest) d = none
  | 0, _ => rfl
  | fuel + 1, d => by rw [rdAsis, hc]; exact rdAsis_stuck hc rest fuel d

end Uwg.C06
