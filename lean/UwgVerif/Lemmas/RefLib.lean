/-
What `rowOk` (Model/RefLib) says of a packed table, and `tableOk`: a test of the whole table that implies `rowOk`
of every row and is arranged for evaluation by the kernel. Core Lean only, like the model: under Mathlib
`2 ^ 80 : Nat` elaborates to another term than the model's.
-/
import UwgVerif.Model.RefLib

namespace Uwg.RefLib

theorem layersOfCode_length (c : Nat × Nat) : (layersOfCode c).length = c.1 := by
  obtain ⟨n, code⟩ := c
  induction n generalizing code with
  | zero => rfl
  -- `layersOfCode (n + 1, code)` unfolds to a first layer followed by `layersOfCode (n, _)` of the other digits
  | succ n ih => exact congrArg (· + 1) (ih _)

theorem rowOk_iff {nFracs nPos : Nat} {cons : List (Nat × Nat)} {r : ArchRow} :
    rowOk nFracs nPos cons r = true ↔
      (∃ w ro m, cons[r.wall]? = some w ∧ cons[r.roof]? = some ro ∧ cons[r.mass]? = some m ∧
        consOk (layersOfCode w) = true ∧ consOk (layersOfCode ro) = true ∧
        consOk (layersOfCode m) = true) ∧
      (unpackDbls nFracs r.fracs).all Dbl.unit = true ∧ (unpackDbls nPos r.pos).all Dbl.pos = true ∧
      shapeOk r.shape = true := by
  unfold rowOk
  split
  · next w ro m hw hro hm => simp [hw, hro, hm, layersOfCode_length, and_assoc]
  · next hno =>
    simp only [Bool.false_and, Bool.false_eq_true, false_iff, not_and]
    rintro ⟨w, ro, m, hw, hro, hm, -⟩
    exact (hno w ro m hw hro hm).elim

def allDigits (p : Nat → Bool) : Nat → Nat → Bool
  | 0, _ => true
  | n + 1, code => p (code % 2 ^ 80) && allDigits p n (code / 2 ^ 80)

theorem all_unpackDbls (p : Dbl → Bool) (n code : Nat) :
    (unpackDbls n code).all p = allDigits (fun d => p (unpackDbl d)) n code := by
  induction n generalizing code with
  | zero => rfl
  | succ n ih => exact congrArg (p (unpackDbl (code % 2 ^ 80)) && ·) (ih _)

def posD (d : Nat) : Bool := Nat.ble (2 ^ 16) d
def unitD (d : Nat) : Bool := Nat.ble (d / 2 ^ 16) (2 ^ (d % 2 ^ 16))

theorem pos_unpackDbl (d : Nat) : (unpackDbl d).pos = posD d := by
  rw [Bool.eq_iff_iff, posD, Nat.ble_eq, Dbl.pos, decide_eq_true_iff, unpackDbl, Nat.div_pos_iff]
  simp

theorem unit_unpackDbl (d : Nat) : (unpackDbl d).unit = unitD d := by
  rw [Bool.eq_iff_iff, unitD, Nat.ble_eq, Dbl.unit, decide_eq_true_iff, unpackDbl]

/-- The shape `shapeOk` asks for, as a number: 28 bytes, seven times `3, 24, 24, 24`. -/
def shapeCode : Nat := 0x18181803181818031818180318181803181818031818180318181803

theorem shapeOk_shapeCode : shapeOk shapeCode = true := by decide

/-- What the kernel is given to evaluate in place of `rowOk` of every row (`rowOk_of_tableOk`). Of a row it tests
    that the three construction indices are in range, that the packed digits pass `unitD` / `posD` (no lists are
    built) and that the shape is `shapeCode`; each construction is decoded and tested once, not once per row that
    uses it. Each construction is paired with its index and reached through `ci.1` (not by a pattern match, which
    would put the bare code back) because the kernel's caches hash a numeral by its low 64 bits: the construction
    codes agree there, so without the index every term containing one collides with the like terms of the
    others. -/
def tableOk (nFracs nPos : Nat) (cons : List (Nat × Nat)) (rows : List ArchRow) : Bool :=
  (rows.all fun r =>
    Nat.blt r.wall cons.length && Nat.blt r.roof cons.length && Nat.blt r.mass cons.length &&
    allDigits unitD nFracs r.fracs && allDigits posD nPos r.pos && r.shape == shapeCode) &&
  cons.zipIdx.all fun ci => consOk (layersOfCode ci.1)

theorem rowOk_of_tableOk {nFracs nPos : Nat} {cons : List (Nat × Nat)} {rows : List ArchRow}
    (h : tableOk nFracs nPos cons rows = true) : rows.all (rowOk nFracs nPos cons) = true := by
  simp only [tableOk, Bool.and_eq_true, List.all_eq_true, Nat.blt_eq, beq_iff_eq] at h ⊢
  obtain ⟨hr, hc⟩ := h
  have hcons : ∀ i (hi : i < cons.length), consOk (layersOfCode cons[i]) = true := fun i hi =>
    hc (cons[i], i) (List.mk_mem_zipIdx_iff_getElem?.2 (List.getElem?_eq_getElem hi))
  intro r hmem
  obtain ⟨⟨⟨⟨⟨hw, hro⟩, hm⟩, hf⟩, hp⟩, hs⟩ := hr r hmem
  exact rowOk_iff.2 ⟨⟨_, _, _, List.getElem?_eq_getElem hw, List.getElem?_eq_getElem hro,
    List.getElem?_eq_getElem hm, hcons _ hw, hcons _ hro, hcons _ hm⟩,
    by simpa [all_unpackDbls, unit_unpackDbl] using hf, by simpa [all_unpackDbls, pos_unpackDbl] using hp,
    hs ▸ shapeOk_shapeCode⟩

end Uwg.RefLib
