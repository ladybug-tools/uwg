/-
Lemmas for C09 about the psychrometric routines: what they return (any field, any symbols), and
over ℝ the cancellation behind moisture conservation, monotonicity of the dew-point and
saturation-pressure formulas, and a numeric bound on the saturation pressure.
Five of them are property theorems that the C09 check audits beside those of `Props/C09.lean`: `satExponent_eq`,
`psychro_fields`, `dewPoint_strictMono`, `satExponent_strictMono`, `satPa_lt`.
-/
import UwgVerif.Model.Psychro
import UwgVerif.Model.SymbolsReal
import UwgVerif.Lemmas.Except
import Mathlib.Analysis.Complex.ExponentialBounds

namespace Uwg

section generic
variable {K : Type} [Field K] [LinearOrder K] [IsStrictOrderedRing K]

/-- The source's literal `100.0` as a numeral (`lit1`: the same for `1.0`). Rewrite with these
    before `ring`: from a scientific literal with an integral value `ring` builds a proof that the
    kernel rejects (application type mismatch). -/
theorem lit100 : (100.0 : K) = 100 := by norm_num
theorem lit1 : (1.0 : K) = 1 := by norm_num

/-- The two routines evaluate the *same* saturation-pressure exponent (same six constants),
    whatever the interpretation of `log`. -/
theorem satExponent_eq (s : Sym K) (T : K) : satExponent s T = humExponent s T := by
  unfold satExponent humExponent
  rw [lit1]
  ring

theorem mul_div_add_lt {c P a b : K} (hc : 0 < c) (hP : 0 < P) (ha : 0 ≤ a) (hab : a < b) :
    a * P / (c + a) < b * P / (c + b) := by
  rw [div_lt_div_iff₀ (by linarith) (by linarith)]
  linarith [mul_pos (mul_pos hP hc) (sub_pos.mpr hab)]

omit [LinearOrder K] [IsStrictOrderedRing K] in
theorem sub_mul_div_add {c P x : K} (h : c + x ≠ 0) : P - x * P / (c + x) = c * P / (c + x) := by
  field_simp
  ring

theorem vapourPressure_strictMono (P : K) {w₁ w₂ : K} (hP : 0 < P) (h1 : 0 ≤ w₁) (h12 : w₁ < w₂) :
    vapourPressure w₁ P < vapourPressure w₂ P :=
  mul_div_add_lt (by norm_num) hP h1 h12

theorem vapourPressure_nonneg (P : K) {w : K} (hP : 0 < P) (hw : 0 ≤ w) : 0 ≤ vapourPressure w P := by
  unfold vapourPressure
  positivity

theorem vapourPressure_pos (P : K) {w : K} (hP : 0 < P) (hw : 0 < w) : 0 < vapourPressure w P := by
  unfold vapourPressure
  positivity

omit [IsStrictOrderedRing K] in
theorem satPressure_eq_ok {s : Sym K} {t p : K} :
    satPressure s t = .ok p ↔ t + 273.15 ≠ 0 ∧ ¬ t + 273.15 ≤ 0 ∧ satPressureVal s t = p := by
  unfold satPressure
  simp only [Except.ite_error_left_eq_ok, Except.ok.injEq]

omit [IsStrictOrderedRing K] in
theorem psychro_fields {s : Sym K} {T w P : K} {r : PsyOut K} (h : psychro s T w P = .ok r) :
    r.phi = phiVal s T w P ∧ r.tdp = tdpVal s w P ∧ r.w = w ∧ r.tdb = T - 273.15 := by
  unfold psychro at h
  simp only [Except.ite_error_left_eq_ok] at h
  obtain ⟨-, h⟩ := h
  split at h
  · cases h
  · rename_i pws hs
    simp only [Except.ite_error_left_eq_ok, Except.ok.injEq] at h
    obtain ⟨-, -, -, rfl⟩ := h
    obtain ⟨-, -, rfl⟩ := satPressure_eq_ok.mp hs
    exact ⟨rfl, rfl, rfl, rfl⟩

end generic

@[simp] theorem realSym_exp (x : ℝ) : realSym.exp x = Real.exp x := rfl
@[simp] theorem realSym_log (x : ℝ) : realSym.log x = Real.log x := rfl
@[simp] theorem realSym_rpow (x y : ℝ) : realSym.rpow x y = x ^ y := rfl

theorem satPressureVal_pos (t : ℝ) : 0 < satPressureVal realSym t := by
  unfold satPressureVal
  simp only [realSym_exp]
  exact div_pos (Real.exp_pos _) (by norm_num)

theorem humFromRh_returns {RH tC P : ℝ} (hT : 0 < tC + 273.15)
    (hP : P - RH * Real.exp (humExponent realSym (tC + 273.15)) / 100.0 ≠ 0) :
    humFromRh realSym RH tC P = .ok (humFromRhVal realSym RH tC P) := by
  unfold humFromRh humFromRhVal
  simp only [realSym_exp, hT.ne', not_le.mpr hT, hP, if_false]

/-- The vapour pressure [Pa] that `hum_from_rhum_temp` reconstructs from the `phi` of
    `psychrometrics` at the same temperature is `wP/(0.621945+w)`: the saturation pressure
    cancels, whatever the temperature. -/
theorem reconstructed_pw (T w P : ℝ) :
    phiVal realSym T w P * Real.exp (humExponent realSym (T - 273.15 + 273.15)) / 100.0
      = w * P / (0.621945 + w) := by
  have hX : Real.exp (humExponent realSym T) ≠ 0 := (Real.exp_pos _).ne'
  unfold phiVal satPressureVal vapourPressure
  simp only [realSym_exp, lit100, sub_add_cancel, satExponent_eq]
  field_simp

/-- Hence the denominator `P − PW` of `hum_from_rhum_temp` is `0.621945·P/(0.621945+w) ≠ 0`. -/
theorem reconstructed_denominator_ne (T w P : ℝ) (hw : 0 ≤ w) (hP : 0 < P) :
    P - phiVal realSym T w P * Real.exp (humExponent realSym (T - 273.15 + 273.15)) / 100.0 ≠ 0 := by
  have hd : (0 : ℝ) < 0.621945 + w := by positivity
  rw [reconstructed_pw, sub_mul_div_add hd.ne']
  positivity

/-- A cubic `p·x + q·x² + r·x³` with `r > 0` whose derivative has negative discriminant
    (`q² < 3pr`) is strictly increasing on all of ℝ: `4r` times its difference quotient is a sum of
    squares plus `4/3·(3pr − q²)`. -/
theorem cubic_lt {p q r a b : ℝ} (hr : 0 < r) (hdisc : q ^ 2 < 3 * p * r) (hab : a < b) :
    p * a + q * a ^ 2 + r * a ^ 3 < p * b + q * b ^ 2 + r * b ^ 3 := by
  have hQ : 0 < 4 * r * (p + q * (a + b) + r * (a ^ 2 + a * b + b ^ 2)) := by
    have e : 4 * r * (p + q * (a + b) + r * (a ^ 2 + a * b + b ^ 2))
        = 3 * (r * (a + b) + 2 * q / 3) ^ 2 + (r * (a - b)) ^ 2 + 4 / 3 * (3 * p * r - q ^ 2) := by
      ring
    rw [e]
    have := sub_pos.mpr hdisc
    positivity
  have := mul_pos (sub_pos.mpr hab) ((mul_pos_iff_of_pos_left (by positivity)).mp hQ)
  linarith

/-- The dew-point correlation is strictly increasing in the vapour pressure on `pw > 0`: `log` and
    `x ↦ x^0.1984` are increasing, and the cubic in `alpha = log pw` is increasing on all of ℝ
    because its derivative has negative discriminant. -/
theorem dewPoint_strictMono (p q : ℝ) (hp : 0 < p) (hpq : p < q) :
    dewPoint realSym p < dewPoint realSym q := by
  have hq : 0 < q := hp.trans hpq
  have hr : p ^ (0.1984 : ℝ) < q ^ (0.1984 : ℝ) := Real.rpow_lt_rpow hp.le hpq (by norm_num)
  have hc := cubic_lt (p := 14.526) (q := 0.7389) (r := 0.09486) (by norm_num) (by norm_num)
    (Real.log_lt_log hp hpq)
  unfold dewPoint dewAlpha
  simp only [realSym_log, realSym_rpow, if_neg (not_le.mpr hp), if_neg (not_le.mpr hq)]
  linarith

theorem satExponent_sub (a b : ℝ) (ha : a ≠ 0) (hb : b ≠ 0) :
    satExponent realSym b - satExponent realSym a
      = (b - a) * (5800.2206 / (a * b) - 0.048640239 + 4.1764768e-5 * (a + b)
          - 1.4452093e-8 * (a ^ 2 + a * b + b ^ 2))
        + 6.5459673 * (Real.log b - Real.log a) := by
  unfold satExponent
  simp only [realSym_log, lit1]
  field_simp
  ring

/-- The exponent of the saturation-pressure formula is strictly increasing in the absolute
    temperature on [233.15 K, 323.15 K] (−40 … 50 °C). No calculus: the `log` term is increasing,
    and the difference quotient of the rational/polynomial part (`satExponent_sub`) is positive on
    the range. Of the lower end only `0 < a` is used; the upper end bounds the cubic term. -/
theorem satExponent_strictMono (a b : ℝ) (ha : 233.15 ≤ a) (hab : a < b) (hb : b ≤ 323.15) :
    satExponent realSym a < satExponent realSym b := by
  have ha0 : 0 < a := by linarith
  have hb0 : 0 < b := by linarith
  have hl : Real.log a < Real.log b := Real.log_lt_log ha0 hab
  -- on the range every product of two of `a`, `b` is at most 323.15²; hence
  -- 5800.2206/(ab) ≥ 0.0555 and the cubic term costs at most 1.4452093e-8·3·323.15² < 0.0046
  have haa : a * a ≤ 323.15 * 323.15 := mul_le_mul (by linarith) (by linarith) ha0.le (by norm_num)
  have hab2 : a * b ≤ 323.15 * 323.15 := mul_le_mul (by linarith) hb hb0.le (by norm_num)
  have hbb : b * b ≤ 323.15 * 323.15 := mul_le_mul hb hb hb0.le (by norm_num)
  have hinv : (0.0555 : ℝ) ≤ 5800.2206 / (a * b) := by
    rw [le_div_iff₀ (mul_pos ha0 hb0)]
    linarith
  have hq : 0 < 5800.2206 / (a * b) - 0.048640239 + 4.1764768e-5 * (a + b)
      - 1.4452093e-8 * (a ^ 2 + a * b + b ^ 2) := by
    linarith
  rw [← sub_pos, satExponent_sub a b ha0.ne' hb0.ne']
  exact add_pos (mul_pos (sub_pos.mpr hab) hq) (mul_pos (by norm_num) (sub_pos.mpr hl))

theorem exp_nat_mem (n : ℕ) :
    (2.7182818283 : ℝ) ^ n ≤ Real.exp n ∧ Real.exp n ≤ 2.7182818286 ^ n := by
  rw [← Real.exp_one_pow]
  exact ⟨pow_le_pow_left₀ (by norm_num) Real.exp_one_gt_d9.le n,
    pow_le_pow_left₀ (Real.exp_pos 1).le Real.exp_one_lt_d9.le n⟩

/-- `log x ≤ x − 1` at `x = 323.15/e⁶`, with `e⁶ ≥ 403.4`. -/
theorem log_323_le : Real.log 323.15 ≤ 5.8011 := by
  have h6 : (403.4 : ℝ) ≤ Real.exp 6 := by
    have := (exp_nat_mem 6).1
    norm_num at this ⊢
    linarith
  have hl := Real.log_le_sub_one_of_pos (show (0 : ℝ) < 323.15 / Real.exp 6 by positivity)
  rw [Real.log_div (by norm_num) (Real.exp_pos 6).ne', Real.log_exp] at hl
  have : 323.15 / Real.exp 6 ≤ 323.15 / 403.4 :=
    div_le_div_of_nonneg_left (by norm_num) (by norm_num) h6
  norm_num at this
  linarith

theorem exp_ten_lt : Real.exp 10 < 22100 := by
  have := (exp_nat_mem 10).2
  norm_num at this ⊢
  linarith

theorem satExponent_323_le : satExponent realSym 323.15 ≤ 10 := by
  unfold satExponent
  simp only [realSym_log, lit1]
  have := log_323_le
  norm_num
  linarith

/-- Saturation vapour pressure [Pa] is below 22.1 kPa for every temperature in −40 … 50 °C
    (true value at 50 °C: 12.35 kPa). -/
theorem satPa_lt (T : ℝ) (ha : 233.15 ≤ T) (hb : T ≤ 323.15) :
    Real.exp (humExponent realSym T) < 22100 := by
  rw [← satExponent_eq]
  have h1 : satExponent realSym T ≤ satExponent realSym 323.15 := by
    rcases eq_or_lt_of_le hb with h | h
    · rw [h]
    · exact (satExponent_strictMono T 323.15 ha h le_rfl).le
  calc Real.exp (satExponent realSym T) ≤ Real.exp 10 :=
        Real.exp_le_exp.mpr (h1.trans satExponent_323_le)
    _ < 22100 := exp_ten_lt

end Uwg
