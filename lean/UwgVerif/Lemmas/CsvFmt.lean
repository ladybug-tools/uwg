/-
Helper lemmas for C01: decimal digits, round-half-even, `fmtFixed`, the patch loop of `write_epw`.
Core Lean only.
-/
import UwgVerif.Model.Csv

namespace Uwg.Csv

theorem digitChar_isDigit : ∀ d, d < 10 → (digitChar d).isDigit = true := by decide

theorem digitChar_val : ∀ d, d < 10 → (digitChar d).toNat - 48 = d := by decide

theorem natDigits_ne_nil (n : Nat) : natDigits n ≠ [] := by
  rw [natDigits]
  split <;> simp

theorem natDigits_isDigit (n : Nat) : ∀ c ∈ natDigits n, c.isDigit = true := by
  induction n using natDigits.induct with
  | case1 n h =>
    rw [natDigits, if_pos h]
    simpa using digitChar_isDigit n h
  | case2 n h ih =>
    rw [natDigits, if_neg h]
    simpa [or_imp, forall_and] using ⟨ih, digitChar_isDigit _ (Nat.mod_lt _ (by decide))⟩

theorem decValue_snoc (l : List Char) (x : Char) :
    decValue (l ++ [x]) = decValue l * 10 + (x.toNat - 48) := by
  simp [decValue, List.foldl_append]

theorem decValue_natDigits (n : Nat) : decValue (natDigits n) = n := by
  induction n using natDigits.induct with
  | case1 n h =>
    rw [natDigits, if_pos h]
    simpa [decValue] using digitChar_val n h
  | case2 n h ih =>
    rw [natDigits, if_neg h, decValue_snoc, ih, digitChar_val _ (Nat.mod_lt _ (by decide))]
    omega

theorem fixedDigits_length (k m : Nat) : (fixedDigits k m).length = k := by
  induction k generalizing m with
  | zero => rfl
  | succ k ih => simp [fixedDigits, ih]

theorem fixedDigits_isDigit (k m : Nat) : ∀ c ∈ fixedDigits k m, c.isDigit = true := by
  induction k generalizing m with
  | zero => simp [fixedDigits]
  | succ k ih => simpa [fixedDigits, or_imp, forall_and] using ⟨ih _, digitChar_isDigit _ (Nat.mod_lt _ (by decide))⟩

theorem decValue_append_fixed (l : List Char) (k m : Nat) :
    decValue (l ++ fixedDigits k m) = decValue l * 10 ^ k + m % 10 ^ k := by
  induction k generalizing m with
  | zero => simp [fixedDigits, Nat.mod_one]
  | succ k ih =>
    simp only [fixedDigits]
    rw [← List.append_assoc, decValue_snoc, ih, digitChar_val _ (by omega)]
    have e : m % 10 ^ (k + 1) = m % 10 + 10 * (m / 10 % 10 ^ k) := by
      rw [Nat.pow_succ, Nat.mul_comm (10 ^ k) 10, Nat.mod_mul]
    rw [e, Nat.pow_succ, Nat.add_mul, Nat.mul_assoc, Nat.mul_comm (10 ^ k) 10]
    omega

theorem roundHalfEven_spec (a den : Nat) (hden : 0 < den) :
    2 * (roundHalfEven a den * den) ≤ 2 * a + den ∧ 2 * a ≤ 2 * (roundHalfEven a den * den) + den ∧
    (2 * (a % den) = den → roundHalfEven a den % 2 = 0) := by
  have hdm := Nat.div_add_mod a den
  have hlt := Nat.mod_lt a hden
  unfold roundHalfEven
  dsimp only
  -- with `den * (a / den)` as an atom, what remains is linear in both branches
  split
  · rw [Nat.add_mul, Nat.one_mul, Nat.mul_comm _ den]
    omega
  · rw [Nat.mul_comm _ den]
    omega

theorem fmtFixed_eq (num : Int) (den p : Nat) :
    fmtFixed num den p =
      (if num < 0 then ['-'] else []) ++ natDigits (fmtScaled num den p / 10 ^ p) ++
        (if p = 0 then [] else '.' :: fixedDigits p (fmtScaled num den p % 10 ^ p)) := by
  unfold fmtFixed
  by_cases h : num < 0 <;> simp [h]

theorem fmtFixed_chars (num : Int) (den p : Nat) :
    ∀ c ∈ fmtFixed num den p, c.isDigit = true ∨ c = '-' ∨ c = '.' := by
  intro c hc
  rw [fmtFixed_eq] at hc
  simp only [List.mem_append] at hc
  rcases hc with (hc | hc) | hc
  · split at hc
    · exact Or.inr (Or.inl (List.mem_singleton.1 hc))
    · cases hc
  · exact Or.inl (natDigits_isDigit _ c hc)
  · split at hc
    · cases hc
    · rcases List.mem_cons.1 hc with hc | hc
      · exact Or.inr (Or.inr hc)
      · exact Or.inl (fixedDigits_isDigit _ _ c hc)

/-- The row after one iteration of the patch loop. -/
def patched (p : Nat) (r : Row) (x : Res) : Row :=
  (((r.set 6 (fmtFrac x.tdb p)).set 7 (fmtFrac x.tdp p)).set 8 (fmtFrac x.rh p)).set 21 (fmtFrac x.wind p)

theorem setCol_bind (j : Nat) (v : Cell) (r : Row) (f : Row → Option Row) :
    (setCol j v r).bind f = if j < r.length then f (r.set j v) else none := by
  unfold setCol
  split <;> rfl

/-- Only the last assignment can fail that the earlier ones would not: a row that has cell 21 has cells 6, 7, 8. -/
theorem patchRow_eq (p : Nat) (r : Row) (x : Res) :
    patchRow p r x = if 21 < r.length then some (patched p r x) else none := by
  simp only [patchRow, setCol_bind, List.length_set]
  simp only [setCol, List.length_set, patched]
  by_cases h : 21 < r.length
  · simp only [h, show 6 < r.length by omega, show 7 < r.length by omega, show 8 < r.length by omega, if_true]
  · simp only [h, if_false, ite_self]

theorem patched_length (p : Nat) (r : Row) (x : Res) : (patched p r x).length = r.length := by
  simp only [patched, List.length_set]

theorem patched_get (p : Nat) (r : Row) (x : Res) (h : 21 < r.length) (j : Nat) :
    (patched p r x)[j]? =
      if j = 21 then some (fmtFrac x.wind p) else if j = 8 then some (fmtFrac x.rh p)
      else if j = 7 then some (fmtFrac x.tdp p) else if j = 6 then some (fmtFrac x.tdb p) else r[j]? := by
  simp only [patched, List.getElem?_set, List.length_set, eq_comm (b := j), h, show 6 < r.length by omega,
    show 7 < r.length by omega, show 8 < r.length by omega, if_true]

theorem patched_get_other (p : Nat) (r : Row) (x : Res) {j : Nat} (hj : ¬ (j = 6 ∨ j = 7 ∨ j = 8 ∨ j = 21)) :
    (patched p r x)[j]? = r[j]? := by
  simp only [not_or] at hj
  simp only [patched, List.getElem?_set, eq_comm (b := j), hj, if_false]

theorem mem_patched {p : Nat} {r : Row} {x : Res} {c : Cell} (h : c ∈ patched p r x) :
    c ∈ r ∨ ∃ q : Frac, c = fmtFrac q p := by
  unfold patched at h
  rcases List.mem_or_eq_of_mem_set h with h | h
  · rcases List.mem_or_eq_of_mem_set h with h | h
    · rcases List.mem_or_eq_of_mem_set h with h | h
      · rcases List.mem_or_eq_of_mem_set h with h | h
        · exact Or.inl h
        · exact Or.inr ⟨_, h⟩
      · exact Or.inr ⟨_, h⟩
    · exact Or.inr ⟨_, h⟩
  · exact Or.inr ⟨_, h⟩

/-- Row `i` of the table after the patch loop, as a function of the row `r` that was there. -/
def patchedAt (p s : Nat) (res : List Res) (i : Nat) (r : Row) : Row :=
  if s ≤ i then (res[i - s]?).elim r (patched p r) else r

theorem patchedAt_window {p s i : Nat} {res : List Res} {r : Row} {x : Res} (h : s ≤ i)
    (hx : res[i - s]? = some x) : patchedAt p s res i r = patched p r x := by
  rw [patchedAt, if_pos h, hx]
  rfl

@[elab_as_elim]
theorem patchedAt_cases {motive : Row → Prop} {p s i : Nat} {res : List Res} {r : Row} (outside : motive r)
    (window : ∀ x, s ≤ i → i < s + res.length → motive (patched p r x)) : motive (patchedAt p s res i r) := by
  unfold patchedAt
  split
  · rename_i h
    cases hx : res[i - s]? with
    | none => exact outside
    | some x => exact window x h (by have := (List.getElem?_eq_some_iff.1 hx).1; omega)
  · exact outside

theorem patchedAt_length (p s : Nat) (res : List Res) (i : Nat) (r : Row) :
    (patchedAt p s res i r).length = r.length :=
  patchedAt_cases rfl fun x _ _ => patched_length p r x

theorem patchedAt_nil (p s i : Nat) : patchedAt p s [] i = id := by
  funext r
  simp [patchedAt]

theorem patchedAt_of_lt {p s i : Nat} {res : List Res} {r : Row} (h : i < s) : patchedAt p s res i r = r :=
  if_neg (Nat.not_le.2 h)

theorem patchedAt_cons (p s : Nat) (x : Res) (xs : List Res) (i : Nat) (r : Row) :
    patchedAt p s (x :: xs) i r = if i = s then patched p r x else patchedAt p (s + 1) xs i r := by
  unfold patchedAt
  rcases Nat.lt_trichotomy i s with h | rfl | h
  · rw [if_neg (Nat.not_le.2 h), if_neg (Nat.ne_of_lt h), if_neg (Nat.not_le.2 (Nat.lt_succ_of_lt h))]
  · rw [if_pos (Nat.le_refl i), if_pos rfl, Nat.sub_self]
    rfl
  · rw [if_pos (Nat.le_of_lt h), if_neg (Nat.ne_of_gt h), if_pos (Nat.succ_le_of_lt h),
      show i - s = i - (s + 1) + 1 by omega]
    rfl

theorem patchRows_eq_some (p : Nat) : ∀ (res : List Res) (rows : List Row) (s : Nat) (rows' : List Row),
    patchRows p rows s res = some rows' ↔
      (∀ i, s ≤ i → i < s + res.length → ∃ r, rows[i]? = some r ∧ 21 < r.length) ∧
      rows' = rows.mapIdx (patchedAt p s res)
  | [], rows, s, rows' => by
    have e : rows.mapIdx (patchedAt p s []) = rows := by
      apply List.ext_getElem?
      simp [patchedAt_nil]
    rw [patchRows, e, Option.some.injEq]
    exact ⟨fun h => ⟨fun i h1 h2 => absurd h2 (Nat.not_lt.2 h1), h.symm⟩, fun h => h.2.symm⟩
  | x :: xs, rows, s, rows' => by
    rw [patchRows]
    -- row `s` is in the window: it decides whether the first iteration returns
    have first : (∀ i, s ≤ i → i < s + (x :: xs).length → ∃ r, rows[i]? = some r ∧ 21 < r.length) →
        ∃ r, rows[s]? = some r ∧ 21 < r.length := fun h => h s (Nat.le_refl s) (by simp)
    cases hr : rows[s]? with
    | none =>
      simp only [reduceCtorEq, false_iff, not_and]
      intro h
      obtain ⟨r, h0, _⟩ := first h
      rw [hr] at h0
      cases h0
    | some r =>
      dsimp only
      rw [patchRow_eq]
      by_cases hl : 21 < r.length
      · rw [if_pos hl, Option.bind_some, patchRows_eq_some p xs]
        have hs : s < rows.length := (List.getElem?_eq_some_iff.1 hr).1
        have e : (rows.set s (patched p r x)).mapIdx (patchedAt p (s + 1) xs) =
            rows.mapIdx (patchedAt p s (x :: xs)) := by
          apply List.ext_getElem?
          intro i
          rw [List.getElem?_mapIdx, List.getElem?_mapIdx, List.getElem?_set]
          by_cases hi : s = i
          · subst hi
            simp only [if_true, hs, hr, Option.map_some, patchedAt_cons, patchedAt_of_lt (Nat.lt_succ_self s)]
          · rw [if_neg hi]
            cases rows[i]? with
            | none => rfl
            | some r' => simp only [Option.map_some, patchedAt_cons, if_neg (Ne.symm hi)]
        rw [e]
        refine and_congr_left fun _ => ⟨fun h i h1 h2 => ?_, fun h i h1 h2 => ?_⟩
        · rcases Nat.eq_or_lt_of_le h1 with rfl | h1
          · exact ⟨r, hr, hl⟩
          · have := h i h1 (by rw [List.length_cons] at h2; omega)
            rwa [List.getElem?_set_ne (by omega)] at this
        · rw [List.getElem?_set_ne (by omega)]
          exact h i (by omega) (by rw [List.length_cons]; omega)
      · simp only [hl, if_false, Option.bind_none, reduceCtorEq, false_iff, not_and]
        intro h
        obtain ⟨r', h0, hl'⟩ := first h
        rw [hr] at h0
        cases h0
        exact absurd hl' hl

end Uwg.Csv
