/-
Lemmas for C01: the `csv.reader` automaton on what the writer renders, and line splitting.
`parseAux` (the fields) and `endSt` (the final state) are two recursions over one automaton, so each step is stated
for both at once. The automaton is followed through a rendered cell once, with an arbitrary rest of the line behind
it (`through_renderCell`); rows are then a matter of what the states other than `quoted` do at a comma and at the end
of the line. Core Lean only.
-/
import UwgVerif.Model.Csv

namespace Uwg.Csv

theorem foldr_consHead (c f : List Char) (fs : List Cell) :
    c.foldr consHead (f :: fs) = (c ++ f) :: fs := by
  induction c with
  | nil => rfl
  | cons ch c ih => simp [List.foldr, ih, consHead]

theorem comma_of_ne_quoted {s : St} (hs : s ≠ .quoted) (more : List Char) :
    parseAux s (',' :: more) = [] :: parseAux .start more ∧ endSt s (',' :: more) = endSt .start more := by
  cases s <;> simp [parseAux, endSt] at hs ⊢

/-- The state in which the automaton leaves a rendered cell. -/
def after (c : Cell) : St := if needsQuote c then .qq else if c = [] then .start else .infield

theorem after_ne_quoted (c : Cell) : after c ≠ .quoted := by
  unfold after
  split
  · simp
  · split <;> simp

theorem infield_append (c tail : List Char) (hc : ',' ∉ c) :
    parseAux .infield (c ++ tail) = c.foldr consHead (parseAux .infield tail) ∧
      endSt .infield (c ++ tail) = endSt .infield tail := by
  induction c with
  | nil => exact ⟨rfl, rfl⟩
  | cons ch c ih =>
    have h1 : ch ≠ ',' := fun h => hc (by simp [h])
    have h2 : ',' ∉ c := fun h => hc (by simp [h])
    simp [parseAux, endSt, h1, ih h2]

theorem quoted_append (c tail : List Char) :
    parseAux .quoted (escapeQuotes c ++ tail) = c.foldr consHead (parseAux .quoted tail) ∧
      endSt .quoted (escapeQuotes c ++ tail) = endSt .quoted tail := by
  induction c with
  | nil => exact ⟨rfl, rfl⟩
  | cons ch c ih =>
    by_cases h : ch = '"'
    · subst h
      simp [escapeQuotes, parseAux, endSt, ih]
    · simp [escapeQuotes, parseAux, endSt, h, ih]

theorem through_renderCell (c tail : List Char) :
    parseAux .start (renderCell c ++ tail) = c.foldr consHead (parseAux (after c) tail) ∧
      endSt .start (renderCell c ++ tail) = endSt (after c) tail := by
  unfold renderCell after
  split
  · rw [List.cons_append, List.append_assoc, parseAux, endSt, if_pos rfl, if_pos rfl, (quoted_append c _).1,
      (quoted_append c _).2]
    simp [parseAux, endSt]
  · rename_i h
    obtain ⟨h1, h2⟩ : ',' ∉ c ∧ '"' ∉ c := by simpa [needsQuote] using h
    cases c with
    | nil => exact ⟨rfl, rfl⟩
    | cons ch c =>
      have a1 : ch ≠ ',' := fun h => h1 (by simp [h])
      have a2 : ch ≠ '"' := fun h => h2 (by simp [h])
      have a3 : ',' ∉ c := fun h => h1 (by simp [h])
      simp [parseAux, endSt, a1, a2, infield_append c tail a3]

theorem parseAux_renderRow (c : Cell) (cs : Row) : parseAux .start (renderRow (c :: cs)) = c :: cs := by
  induction cs generalizing c with
  | nil =>
    have := (through_renderCell c []).1
    rwa [List.append_nil, parseAux, foldr_consHead, List.append_nil] at this
  | cons d ds ih =>
    rw [renderRow, (through_renderCell c _).1, (comma_of_ne_quoted (after_ne_quoted c) _).1, ih, foldr_consHead,
      List.append_nil]

theorem splitLines_append (l rest : List Char) (h : '\n' ∉ l) :
    splitLines (l ++ '\n' :: rest) = l :: splitLines rest := by
  induction l with
  | nil => simp [splitLines]
  | cons ch l ih =>
    have h1 : ch ≠ '\n' := fun e => h (by simp [e])
    have h2 : '\n' ∉ l := fun e => h (by simp [e])
    simp [splitLines, h1, ih h2]

theorem mem_escapeQuotes {x : Char} {c : List Char} : x ∈ escapeQuotes c ↔ x ∈ c := by
  induction c with
  | nil => simp [escapeQuotes]
  | cons ch c ih =>
    unfold escapeQuotes
    split
    · rename_i e
      simp [ih, e]
    · simp [ih]

theorem renderCell_no_nl {c : Cell} (h : '\n' ∉ c) : '\n' ∉ renderCell c := by
  unfold renderCell
  split
  · simpa [mem_escapeQuotes] using h
  · exact h

theorem renderRow_no_nl : ∀ (r : Row), (∀ c ∈ r, '\n' ∉ c) → '\n' ∉ renderRow r
  | [], _ => by simp [renderRow]
  | [c], h => renderCell_no_nl (h c (by simp))
  | c :: d :: ds, h => by
    have ih := renderRow_no_nl (d :: ds) fun c' hc' => h c' (by simp [hc'])
    simpa [renderRow, renderCell_no_nl (h c (by simp))] using ih

theorem splitLines_writeText (rows : List Row) (h : ∀ r ∈ rows, ∀ c ∈ r, '\n' ∉ c) :
    splitLines (writeText rows) = rows.map renderRow := by
  induction rows with
  | nil => simp [writeText, splitLines]
  | cons r rows ih =>
    have h1 := renderRow_no_nl r (h r (by simp))
    have h2 : ∀ r' ∈ rows, ∀ c ∈ r', '\n' ∉ c := fun r' hr' => h r' (by simp [hr'])
    have e : writeText (r :: rows) = renderRow r ++ '\n' :: writeText rows := by
      simp [writeText]
    rw [e, splitLines_append _ _ h1, List.map_cons, ← ih h2]

end Uwg.Csv
