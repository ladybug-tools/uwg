import UwgVerif.Model.Tridiag
import UwgVerif.Lemmas.WeightedMean
import Mathlib.Tactic.FieldSimp
import Mathlib.Tactic.Ring
import Mathlib.Tactic.Linarith

/-!
The tridiagonal solver `solve = fwd 0 ∘ elim`. `elim (r :: rs)` is only taken apart by `elim_cons`,
never through the `match` in its definition. With non-zero pivots the vector returned is the one
solution of the system (`sat_iff`). The invariants of elimination (non-zero pivots under strict
dominance, positive pivots for M-matrix rows, bounds on the right-hand side for the maximum
principle) are instances of `forall_mem_elim`.
-/

namespace Uwg
variable {K : Type} [Field K]

/-- Row `r` after its upper entry has been eliminated against the reduced row `r'` below it. -/
def Row.reduce (r r' : Row K) : Row K :=
  { r with b := r.b - r.c * r'.a / r'.b, y := r.y - r.c * r'.y / r'.b }

theorem elim_cons (r : Row K) (rs : List (Row K)) :
    elim (r :: rs) = (elim rs).head?.elim r r.reduce :: elim rs := by
  rw [elim]; cases elim rs <;> rfl

theorem elim_eq_nil {rs : List (Row K)} : elim rs = [] ↔ rs = [] := by
  cases rs with
  | nil => simp [elim]
  | cons r rs => simp [elim_cons]

theorem elim_length (rs : List (Row K)) : (elim rs).length = rs.length := by
  induction rs with
  | nil => rfl
  | cons r rs ih => rw [elim_cons, List.length_cons, ih, List.length_cons]

theorem fwd_length (rs : List (Row K)) (x : K) : (fwd x rs).length = rs.length := by
  induction rs generalizing x with
  | nil => rfl
  | cons r rs ih => simp [fwd, ih]

theorem solve_length (rs : List (Row K)) : (solve rs).length = rs.length := by
  rw [solve, fwd_length, elim_length]

theorem forall_mem_elim {Q P : Row K → Prop} (step : ∀ {r r'}, Q r → P r' → P (r.reduce r'))
    {rs : List (Row K)} (hQ : ∀ r ∈ rs, Q r) (hlast : ∀ r, rs.getLast? = some r → P r) :
    ∀ r ∈ elim rs, P r := by
  induction rs with
  | nil => simp [elim]
  | cons r rs ih =>
    obtain ⟨hr, hQ'⟩ := List.forall_mem_cons.mp hQ
    have ih' : ∀ q ∈ elim rs, P q :=
      ih hQ' fun t ht => hlast t (by rw [List.getLast?_cons, ht]; rfl)
    rw [elim_cons, List.forall_mem_cons]
    refine ⟨?_, ih'⟩
    cases h : (elim rs).head? with
    | none =>
      rw [List.head?_eq_none_iff, elim_eq_nil] at h
      exact hlast r (by rw [h]; rfl)
    | some r' => exact step hr (ih' r' (List.mem_of_mem_head? h))

/-- All pivots (main-diagonal entries after elimination) are non-zero. -/
def Pivots (rs : List (Row K)) : Prop := ∀ r ∈ elim rs, r.b ≠ 0

theorem eq_iff_of_mul_sub {k a b c d : K} (hk : k ≠ 0) (h : k * (a - b) = c - d) :
    a = b ↔ c = d := by
  rw [← sub_eq_zero, ← sub_eq_zero (a := c), ← h, mul_eq_zero, or_iff_right hk]

/-- The one computation behind soundness and uniqueness. With the unknown below expressed through
    `x` by forward substitution over the reduced rows `rs`, the equation of `r` says that `x` is
    what forward substitution computes from `q`: both sides are the same linear equation in `x`.
    `q` is a variable, fixed by `hq` (callers pass `rfl`), so that `hb` can be stated about it. -/
theorem reduce_eq_iff {r q : Row K} {rs : List (Row K)} (hq : rs.head?.elim r r.reduce = q)
    (hb : q.b ≠ 0) (xprev x : K) :
    r.a * xprev + r.b * x + r.c * (fwd x rs).headD 0 = r.y ↔ x = (q.y - q.a * xprev) / q.b := by
  subst hq
  rw [eq_div_iff hb]
  refine eq_iff_of_mul_sub one_ne_zero ?_
  cases rs with
  | nil => simp only [fwd, List.headD_nil, List.head?_nil, Option.elim_none]; ring
  | cons r' rs =>
    simp only [fwd, List.headD_cons, List.head?_cons, Option.elim_some, Row.reduce]; ring

theorem sat_iff {rs : List (Row K)} (hp : Pivots rs) (xprev : K) (xs : List K) :
    Sat xprev rs xs ↔ xs = fwd xprev (elim rs) := by
  induction rs generalizing xprev xs with
  | nil => cases xs <;> simp [Sat, elim, fwd]
  | cons r rs ih =>
    rw [Pivots, elim_cons, List.forall_mem_cons] at hp
    obtain ⟨hb, hp'⟩ := hp
    cases xs with
    | nil => simp [Sat, elim_cons, fwd]
    | cons x xs =>
      rw [Sat, elim_cons, fwd, List.cons.injEq, ih hp']
      -- both sides say `xs = fwd x (elim rs)`; under it, compare the two conditions on `x`
      have h := reduce_eq_iff rfl hb xprev x
      constructor
      · rintro ⟨h1, rfl⟩; exact ⟨h.mp h1, by rw [← h.mp h1]⟩
      · rintro ⟨h1, h2⟩; rw [← h1] at h2; subst h2; exact ⟨h.mpr h1, rfl⟩

/-- C16 (solver part) / C11: `invert` returns an exact solution of the system it is given,
    whenever no pivot vanishes. -/
theorem solve_sound (rs : List (Row K)) (hp : Pivots rs) : Sat 0 rs (solve rs) :=
  (sat_iff hp 0 _).mpr rfl

theorem sat_unique_solve (rs : List (Row K)) (hp : Pivots rs) (xs : List K)
    (h : Sat 0 rs xs) : xs = solve rs := (sat_iff hp 0 xs).mp h

theorem Sat.cons_elim {xprev : K} {r : Row K} {rs : List (Row K)} {xs : List K}
    (h : Sat xprev (r :: rs) xs) :
    ∃ x xs', xs = x :: xs' ∧ r.a * xprev + r.b * x + r.c * xs'.headD 0 = r.y ∧ Sat x rs xs' :=
  match xs, h with
  | x :: xs', h => ⟨x, xs', rfl, h.1, h.2⟩

theorem Sat.length_eq : ∀ {xprev : K} {rs : List (Row K)} {xs : List K},
    Sat xprev rs xs → xs.length = rs.length
  | _, [], [], _ => rfl
  | _, _ :: _, _ :: _, h => congrArg (· + 1) h.2.length_eq
  | _, [], _ :: _, h => h.elim
  | _, _ :: _, [], h => h.elim

section Ordered
variable [LinearOrder K] [IsStrictOrderedRing K]

/-- Row shape of every system uwg builds: non-positive off-diagonals, weak diagonal dominance,
    and `b + c > 0` (which is implied by strict dominance with `a ≤ 0`). The last diffusion row
    `(-1, 1, 0)` is only weakly dominant and is covered. -/
def MRow (r : Row K) : Prop := r.a ≤ 0 ∧ r.c ≤ 0 ∧ 0 ≤ r.a + r.b + r.c ∧ 0 < r.b + r.c

/-- Every row uwg assembles except that last diffusion row (row sum 0) has a positive row sum `h`:
    heat capacity over `dt` in `Conduction`, `1` in the other rows of `diffusion_equation` and in
    the Dirichlet rows. -/
theorem MRow.of_sum_pos {r : Row K} {h : K} (ha : r.a ≤ 0) (hc : r.c ≤ 0)
    (hs : r.a + r.b + r.c = h) (hh : 0 < h) : MRow r :=
  ⟨ha, hc, hs ▸ hh.le, by linarith⟩

/-- What elimination makes of an `MRow`. -/
def Reduced (r : Row K) : Prop := r.a ≤ 0 ∧ 0 < r.b ∧ 0 ≤ r.a + r.b

/-- Reduction adds `t = -c / b' ≥ 0` times the row below, which cancels the upper entry: the row
    sum (`a + b + c` before, `a + b` after) and the right-hand side grow by `t` times those of
    the row below. -/
theorem Row.reduce_eq_add (r r' : Row K) (hc : r.c ≤ 0) (hb' : 0 < r'.b) :
    ∃ t, 0 ≤ t ∧ (r.reduce r').b = r.b + r.c + t * (r'.a + r'.b) ∧
      (r.reduce r').y = r.y + t * r'.y := by
  refine ⟨-r.c / r'.b, div_nonneg (neg_nonneg.mpr hc) hb'.le, ?_, ?_⟩
  · simp only [Row.reduce]
    field_simp
    ring
  · simp only [Row.reduce]
    ring

theorem MRow.toReduced {r : Row K} (h : MRow r) : Reduced r :=
  ⟨h.1, h.2.2.2.trans_le (add_le_of_nonpos_right h.2.1), h.2.2.1.trans (add_le_of_nonpos_right h.2.1)⟩

theorem MRow.reduce {r r' : Row K} (h : MRow r) (h' : Reduced r') : Reduced (r.reduce r') := by
  obtain ⟨ha, hc, hs, hbc⟩ := h
  obtain ⟨-, hb', hs'⟩ := h'
  obtain ⟨t, ht, eb, -⟩ := r.reduce_eq_add r' hc hb'
  refine ⟨ha, ?_, ?_⟩
  · rw [eb]
    exact add_pos_of_pos_of_nonneg hbc (mul_nonneg ht hs')
  · show 0 ≤ r.a + (r.reduce r').b
    rw [eb, ← add_assoc, ← add_assoc]
    exact add_nonneg hs (mul_nonneg ht hs')

/-- Every system whose rows are all `MRow`s has non-vanishing (indeed positive) pivots. -/
theorem pivots_of_mrows (rs : List (Row K)) (h : ∀ r ∈ rs, MRow r) : Pivots rs := fun r hr =>
  (forall_mem_elim (Q := MRow) (P := Reduced) MRow.reduce h
    (fun r hr => (h r (List.mem_of_getLast? hr)).toReduced) r hr).2.1.ne'

/-- Strict diagonal dominance in the usual absolute-value sense. -/
def SDD (r : Row K) : Prop := |r.a| + |r.c| < |r.b|

/-- What elimination keeps of `SDD`. -/
def Row.Dominated (r : Row K) : Prop := |r.a| < |r.b|

theorem Row.Dominated.ne_zero {r : Row K} (h : r.Dominated) : r.b ≠ 0 :=
  abs_pos.mp ((abs_nonneg _).trans_lt h)

theorem SDD.dominated {r : Row K} (h : SDD r) : r.Dominated :=
  lt_of_le_of_lt (le_add_of_nonneg_right (abs_nonneg r.c)) h

theorem SDD.reduce {r r' : Row K} (h : SDD r) (h' : r'.Dominated) : (r.reduce r').Dominated := by
  have hb' : 0 < |r'.b| := (abs_nonneg _).trans_lt h'
  have hterm : |r.c * r'.a / r'.b| ≤ |r.c| := by
    rw [mul_div_assoc, abs_mul, abs_div]
    exact mul_le_of_le_one_right (abs_nonneg _) ((div_le_one hb').mpr h'.le)
  have := abs_sub_abs_le_abs_sub r.b (r.c * r'.a / r'.b)
  show |r.a| < |r.b - r.c * r'.a / r'.b|
  unfold SDD at h
  linarith

/-- C16: for every strictly diagonally dominant tridiagonal system the pivots are non-zero,
    hence (`solve_sound`) the solver returns its exact solution. -/
theorem pivots_of_sdd (rs : List (Row K)) (h : ∀ r ∈ rs, SDD r) : Pivots rs := fun r hr =>
  (forall_mem_elim (Q := SDD) (P := Row.Dominated) SDD.reduce h
    (fun r hr => (h r (List.mem_of_getLast? hr)).dominated) r hr).ne_zero

theorem solve_sound_of_sdd (rs : List (Row K)) (h : ∀ r ∈ rs, SDD r) : Sat 0 rs (solve rs) :=
  solve_sound rs (pivots_of_sdd rs h)

/-- `B` for bounded: row of an M-matrix system whose right-hand side lies between `m` and `M` times
    the row sum. -/
def BRow (m M : K) (r : Row K) : Prop := MRow r ∧ Between m M r.y (r.a + r.b + r.c)

/-- `E` for eliminated: what elimination makes of a `BRow` (`BRow.reduce`), with the row sum
    `a + b` of a `Reduced` row. -/
def ERow (m M : K) (r : Row K) : Prop := Reduced r ∧ Between m M r.y (r.a + r.b)

theorem BRow.reduce {m M : K} {r r' : Row K} (h : BRow m M r) (h' : ERow m M r') :
    ERow m M (r.reduce r') := by
  obtain ⟨t, ht, eb, ey⟩ := r.reduce_eq_add r' h.1.2.1 h'.1.2.1
  refine ⟨h.1.reduce h'.1, ?_⟩
  show Between m M (r.reduce r').y (r.a + (r.reduce r').b)
  rw [eb, ey, ← add_assoc, ← add_assoc]
  exact h.2.add (h'.2.smul ht)

/-- One forward substitution is a convex combination of the value above and `y / (a + b)`; in the
    Dirichlet row (`a = 0`) the value above does not enter. -/
theorem ERow.fwd_mem {m M : K} {r : Row K} (h : ERow m M r) (xprev : K)
    (hx : r.a = 0 ∨ (m ≤ xprev ∧ xprev ≤ M)) :
    m ≤ (r.y - r.a * xprev) / r.b ∧ (r.y - r.a * xprev) / r.b ≤ M := by
  obtain ⟨⟨ha, hb, -⟩, hy⟩ := h
  have hp : Between m M (-r.a * xprev) (-r.a) := by
    rcases hx with h0 | hx
    · rw [h0, neg_zero, zero_mul]
      exact .zero
    · exact .single' (neg_nonneg.mpr ha) hx
  exact ((hy.add hp).of_eq (by ring) (by ring)).div hb

theorem fwd_bounded {m M : K} {rs : List (Row K)} (h : ∀ r ∈ rs, ERow m M r) (xprev : K)
    (hx : (∀ r ∈ rs.head?, r.a = 0) ∨ (m ≤ xprev ∧ xprev ≤ M)) :
    ∀ x ∈ fwd xprev rs, m ≤ x ∧ x ≤ M := by
  induction rs generalizing xprev with
  | nil => simp [fwd]
  | cons r rs ih =>
    obtain ⟨hr, hrs⟩ := List.forall_mem_cons.mp h
    have hx0 := hr.fwd_mem xprev (hx.imp_left fun h => h r rfl)
    rw [fwd, List.forall_mem_cons]
    exact ⟨hx0, ih hrs _ (.inr hx0)⟩

/-- Maximum principle for `invert`: M-matrix rows, first row without lower entry (Dirichlet),
    last row without upper entry. -/
theorem solve_bounded {m M : K} {r : Row K} {rs : List (Row K)} (ha0 : r.a = 0)
    (h : ∀ q ∈ r :: rs, BRow m M q) (hlast : ∀ t, (r :: rs).getLast? = some t → t.c = 0) :
    ∀ x ∈ solve (r :: rs), m ≤ x ∧ x ≤ M := by
  refine fwd_bounded (forall_mem_elim (Q := BRow m M) (P := ERow m M) BRow.reduce h
    fun t ht => ?_) 0 (.inl ?_)
  · obtain ⟨hm, hy⟩ := h t (List.mem_of_getLast? ht)
    rw [hlast t ht, add_zero] at hy
    exact ⟨hm.toReduced, hy⟩
  · rw [elim_cons]
    intro q hq
    cases hq
    -- the head is `r` or `r.reduce _`, and `Row.reduce` leaves `.a` as it is
    cases (elim rs).head? <;> exact ha0

end Ordered
end Uwg
