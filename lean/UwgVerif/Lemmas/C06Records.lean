/-
C06 — validity predicates and `from_dict (to_dict x) = x` for Material, Element, Building, SchDef, BEMDef.
Proof pattern beyond Material: `fromDict (toDict x)` reduces by `rfl` (the keys are literals, so every lookup is
decided by evaluation) to the constructor applied to the stored fields (`X.fromDict_toDict`), which accepts the
fields of a valid object (`element_make_returns`, `building_make_returns`, `schdef_make_returns`).
-/
import UwgVerif.Model.Params
import UwgVerif.Lemmas.Except

namespace Uwg.C06

/-- `lo <= v <= hi` holds for the number `v` (Python bool counts as 0/1) -/
def InR (lo : Int) (hi : Option Int) (v : J) : Prop :=
  ∃ x, numView v = some x ∧ inRange lo hi x = true

def ExclMin (lo : Int) (v : J) : Prop := ∃ x, numView v = some x ∧ (lo : Rat) < x

theorem checkRange_returns {lo hi v} (h : InR lo hi v) : checkRange lo hi v = .ok v := by
  obtain ⟨x, hx, hr⟩ := h
  simp [checkRange, hx, hr]

theorem checkRange_ok {lo hi v v'} (h : checkRange lo hi v = .ok v') : v' = v ∧ InR lo hi v := by
  unfold checkRange at h
  split at h
  · cases h
  · rename_i x hx
    split at h
    · rename_i hr
      cases h
      exact ⟨rfl, x, hx, hr⟩
    · cases h

theorem checkExclMin_returns {lo v} (h : ExclMin lo v) : checkExclMin lo v = .ok v := by
  obtain ⟨x, hx, hr⟩ := h
  simp [checkExclMin, hx, hr]

theorem checkExclMin_ok {lo v v'} (h : checkExclMin lo v = .ok v') : v' = v ∧ ExclMin lo v := by
  unfold checkExclMin at h
  split at h
  · cases h
  · rename_i x hx
    split at h
    · rename_i hr
      cases h
      exact ⟨rfl, x, hx, hr⟩
    · cases h

/-- a stored week schedule: passes `check_week_validity` -/
def IsWeek (w : J) : Prop := checkWeek w = .ok w

theorem checkWeek_ok {v v'} (h : checkWeek v = .ok v') : v' = v := by
  unfold checkWeek at h
  split at h
  · split at h
    · split at h
      · cases h
      · cases h; rfl
    · cases h
  · cases h

theorem checkRange_stored {lo hi v v'} (h : checkRange lo hi v = .ok v') : checkRange lo hi v' = .ok v' := by
  obtain ⟨rfl, hr⟩ := checkRange_ok h
  exact checkRange_returns hr

theorem checkExclMin_stored {lo v v'} (h : checkExclMin lo v = .ok v') : checkExclMin lo v' = .ok v' := by
  obtain ⟨rfl, hr⟩ := checkExclMin_ok h
  exact checkExclMin_returns hr

theorem checkIntRange_stored {lo hi v v'} (h : checkIntRange lo hi v = .ok v') :
    checkIntRange lo hi v' = .ok v' := by
  cases hi <;>
  · simp only [checkIntRange] at h
    split at h
    · cases h
    · split at h
      · rename_i hr; cases h
        simp [checkIntRange, pyInt, hr]
      · cases h

theorem normBld_stored {v v'} (h : normBld v = .ok v') : normBld v' = .ok v' := by
  unfold normBld at h
  split at h
  · split at h
    · cases h
    · split at h
      · cases h; rename_i rows tot hb ht
        simp [normBld, hb, ht]
      · cases h
  · cases h

def Material.Valid (m : Material) : Prop := ExclMin 0 m.thermalcond ∧ ExclMin 0 m.volheat

/-- Material: `from_dict(to_dict(x)) = x` whenever conductivity and heat capacity are positive. -/
theorem material_from_to (m : Material) (h : m.Valid) : Material.fromDict m.toDict = .ok m := by
  obtain ⟨h1, h2⟩ := h
  simp [Material.fromDict, Material.toDict, checkType, J.get, alookup, Material.make,
    checkExclMin_returns h1, checkExclMin_returns h2, bind, Except.bind]

theorem materials_from_to (ms : List Material) (h : ∀ m ∈ ms, m.Valid) :
    Material.fromDicts (ms.map Material.toDict) = .ok ms := by
  induction ms with
  | nil => rfl
  | cons m ms ih =>
    obtain ⟨hm, hms⟩ := List.forall_mem_cons.1 h
    simp [Material.fromDicts, material_from_to m hm, ih hms]

def Element.Valid (e : Element) : Prop :=
  InR 0 none e.albedo ∧ InR 0 none e.emissivity ∧
  (∃ ts, e.thick = .list ts ∧ ts.length = e.mats.length ∧ allPositive ts = .ok ()) ∧
  (∀ m ∈ e.mats, m.Valid) ∧ InR 0 (some 1) e.vegcoverage ∧ InR 0 none e.tInit

theorem pyInt_bool (b : Bool) : pyInt (.bool b) = .ok (if b then 1 else 0) := by
  cases b <;> rfl

theorem Element.fromDict_toDict (e : Element) :
    Element.fromDict e.toDict =
      Material.fromDicts (e.mats.map Material.toDict) >>= fun mats =>
      Element.make e.albedo e.emissivity e.thick mats e.vegcoverage e.tInit (.bool e.horizontal) e.name :=
  rfl

theorem element_make_returns (e : Element) (h : e.Valid) :
    Element.make e.albedo e.emissivity e.thick e.mats e.vegcoverage e.tInit (.bool e.horizontal) e.name
      = .ok e := by
  obtain ⟨h1, h2, ⟨ts, hts, hlen, hpos⟩, _, h5, h6⟩ := h
  obtain ⟨al, em, th, mats, vc, ti, ho, nm⟩ := e
  simp only at hts hlen h1 h2 h5 h6
  subst hts
  simp [Element.make, checkRange_returns, pyInt_bool, *]

/-- Element: identity for valid elements (non-negative albedo/emissivity/t_init, vegetation cover in
    [0,1], positive thicknesses as many as materials, valid materials). -/
theorem element_from_to (e : Element) (h : e.Valid) : Element.fromDict e.toDict = .ok e := by
  rw [Element.fromDict_toDict, Except.bind_of_eq_ok _ (materials_from_to e.mats h.2.2.2.1),
    element_make_returns e h]

def Building.Valid (b : Building) : Prop :=
  InR 0 none b.floorHeight ∧ InR 0 none b.intHeatNight ∧ InR 0 (some 1) b.intHeatFrad ∧
  InR 0 (some 1) b.intHeatFlat ∧ InR 0 none b.infil ∧ InR 0 none b.vent ∧
  InR 0 (some 1) b.glazingRatio ∧ InR 0 none b.uValue ∧ InR 0 (some 1) b.shgc ∧
  b.condtype ∈ CONDTYPES ∧ InR 0 none b.cop ∧ InR 0 none b.coolcap ∧ InR 0 none b.heateff ∧
  InR 0 none b.initialTemp ∧ b.heatCap ≠ .null

theorem checkCondtype_returns {s : Str} (h : s ∈ CONDTYPES) : checkCondtype (.str s) = .ok s := by
  simp only [CONDTYPES, List.mem_cons, List.not_mem_nil, or_false] at h
  rcases h with h | h <;> subst h <;> rfl

/-- `heat_cap` is not a constructor argument: it is assigned afterwards, unless it is `None`. The `match` on the
    literal `.ok b.heatCap`, dead `.error` branch included, is what `rfl` leaves of `d.get "heat_cap"` in
    `Building.fromDict` once the lookup in the literal dictionary is evaluated. -/
theorem Building.fromDict_toDict (b : Building) :
    Building.fromDict b.toDict =
      Building.make b.floorHeight b.intHeatNight b.intHeatDay b.intHeatFrad b.intHeatFlat b.infil b.vent
        b.glazingRatio b.uValue b.shgc (.str b.condtype) b.cop b.coolcap b.heateff b.initialTemp >>=
      fun b' => match (Except.ok b.heatCap : Except Err J) with
        | .ok .null => pure b'
        | .ok hc => pure { b' with heatCap := hc }
        | .error _ => pure b' :=
  rfl

/-- `heatCap := .num (.int 999)`: `Building.__init__` assigns `self.heat_cap = 999`, whatever its arguments. -/
theorem building_make_returns (b : Building) (h : b.Valid) :
    Building.make b.floorHeight b.intHeatNight b.intHeatDay b.intHeatFrad b.intHeatFlat b.infil b.vent
      b.glazingRatio b.uValue b.shgc (.str b.condtype) b.cop b.coolcap b.heateff b.initialTemp =
    .ok { b with heatCap := .num (.int 999) } := by
  obtain ⟨h1, h2, h3, h4, h5, h6, h7, h8, h9, h10, h11, h12, h13, h14, _⟩ := h
  simp only [Building.make, checkRange_returns, checkCondtype_returns, *, bind, Except.bind, pure, Except.pure]

/-- Building: identity for valid buildings — including the non-constructor attribute `heat_cap`
    (whatever non-None value it holds) and the unvalidated `int_heat_day`. -/
theorem building_from_to (b : Building) (h : b.Valid) : Building.fromDict b.toDict = .ok b := by
  have hc : b.heatCap ≠ .null := h.2.2.2.2.2.2.2.2.2.2.2.2.2.2
  rw [Building.fromDict_toDict, Except.bind_of_eq_ok _ (building_make_returns b h)]
  obtain ⟨a1, a2, a3, a4, a5, a6, a7, a8, a9, a10, a11, a12, a13, a14, a15, a16⟩ := b
  cases a16 <;> first | rfl | exact absurd rfl hc

def SchDef.Valid (s : SchDef) : Prop :=
  IsWeek s.elec ∧ IsWeek s.gas ∧ IsWeek s.light ∧ IsWeek s.occ ∧ IsWeek s.cool ∧ IsWeek s.heat ∧
  IsWeek s.swh ∧ InR 0 none s.qElec ∧ InR 0 none s.qGas ∧ InR 0 none s.qLight ∧ InR 0 none s.nOcc ∧
  InR 0 none s.vent ∧ InR 0 none s.vSwh ∧ s.builtera ∈ REF_ERAS

theorem checkBuiltera_returns {s : Str} (h : s ∈ REF_ERAS) : checkBuiltera (.str s) = .ok s := by
  simp [checkBuiltera, h]

theorem SchDef.fromDict_toDict (s : SchDef) :
    SchDef.fromDict s.toDict =
      SchDef.make s.elec s.gas s.light s.occ s.cool s.heat s.qElec s.qGas s.qLight s.nOcc s.vent
        (.str s.bldtype) (.str s.builtera) s.swh s.vSwh :=
  rfl

theorem schdef_make_returns (s : SchDef) (h : s.Valid) :
    SchDef.make s.elec s.gas s.light s.occ s.cool s.heat s.qElec s.qGas s.qLight s.nOcc s.vent
      (.str s.bldtype) (.str s.builtera) s.swh s.vSwh = .ok s := by
  obtain ⟨w1, w2, w3, w4, w5, w6, w7, h1, h2, h3, h4, h5, h6, he⟩ := h
  simp only [IsWeek] at w1 w2 w3 w4 w5 w6 w7
  simp only [SchDef.make, checkRange_returns, checkBuiltera_returns, checkBldtype, *, bind, Except.bind, pure,
    Except.pure]

/-- SchDef: identity for valid schedules (3×24 numeric weeks, non-negative loads, known era). -/
theorem schdef_from_to (s : SchDef) (h : s.Valid) : SchDef.fromDict s.toDict = .ok s := by
  rw [SchDef.fromDict_toDict, schdef_make_returns s h]

theorem schdefs_from_to (ss : List SchDef) (h : ∀ s ∈ ss, s.Valid) :
    SchDef.fromDicts (ss.map SchDef.toDict) = .ok ss := by
  induction ss with
  | nil => rfl
  | cons s ss ih =>
    obtain ⟨hs, hss⟩ := List.forall_mem_cons.1 h
    simp [SchDef.fromDicts, schdef_from_to s hs, ih hss]

def BEMDef.Valid (x : BEMDef) : Prop :=
  x.building.Valid ∧ x.mass.Valid ∧ x.wall.Valid ∧ x.roof.Valid ∧ x.builtera ∈ REF_ERAS

/-- stated for arbitrary sub-dictionaries, so that checking it does not unfold the nested `to_dict`s -/
theorem BEMDef.fromDict_obj (bd m w r : J) (bt be : Str) :
    BEMDef.fromDict (.obj [(cs! "type", .str (cs! "BEMDef")), (cs! "building", bd), (cs! "mass", m),
        (cs! "wall", w), (cs! "roof", r), (cs! "bldtype", .str bt), (cs! "builtera", .str be)]) =
      Building.fromDict bd >>= fun b => Element.fromDict m >>= fun m => Element.fromDict w >>= fun w =>
      Element.fromDict r >>= fun r => checkBuiltera (.str be) >>= fun be => pure ⟨b, m, w, r, bt, be⟩ :=
  rfl

/-- BEMDef: identity for valid definitions (valid building and elements, known era). -/
theorem bemdef_from_to (x : BEMDef) (h : x.Valid) : BEMDef.fromDict x.toDict = .ok x := by
  obtain ⟨hb, hm, hw, hr, he⟩ := h
  rw [BEMDef.toDict, BEMDef.fromDict_obj, Except.bind_of_eq_ok _ (building_from_to _ hb),
    Except.bind_of_eq_ok _ (element_from_to _ hm), Except.bind_of_eq_ok _ (element_from_to _ hw),
    Except.bind_of_eq_ok _ (element_from_to _ hr), Except.bind_of_eq_ok _ (checkBuiltera_returns he)]
  rfl

theorem bemdefs_from_to (xs : List BEMDef) (h : ∀ x ∈ xs, x.Valid) :
    BEMDef.fromDicts (xs.map BEMDef.toDict) = .ok xs := by
  induction xs with
  | nil => rfl
  | cons x xs ih =>
    obtain ⟨hx, hxs⟩ := List.forall_mem_cons.1 h
    simp [BEMDef.fromDicts, bemdef_from_to x hx, ih hxs]

end Uwg.C06
