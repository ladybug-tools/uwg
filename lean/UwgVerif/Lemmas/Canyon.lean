/-
Lemmas for C13 (canyon radiation): when `ucmGeometry` returns and what, signs in the two reflection
closures, and the coded closure's wall coefficient `cB` in closed form.
-/
import UwgVerif.Model.Canyon
import UwgVerif.Lemmas.Except
import Mathlib.Tactic.Ring
import Mathlib.Tactic.FieldSimp
import Mathlib.Tactic.Linarith

namespace Uwg.Canyon
variable {K : Type} [Field K] [LinearOrder K] [IsStrictOrderedRing K]

theorem root_bounds {a s : K} (ha : 0 < a) (hs : s * s = a * a + 1) (hs0 : 0 ≤ s) :
    a < s ∧ s < a + 1 ∧ 1 < s := by
  refine ⟨lt_of_mul_self_lt_mul_self₀ hs0 ?_, lt_of_mul_self_lt_mul_self₀ (by linarith) ?_,
    lt_of_mul_self_lt_mul_self₀ hs0 ?_⟩
  · rw [hs]
    exact lt_add_one _
  · rw [hs]
    linarith
  · rw [hs, one_mul]
    exact lt_add_of_pos_left _ (mul_pos ha ha)

omit [IsStrictOrderedRing K] in
theorem ucmGeometry_ok {S : Sym K} {h dens vth tree veg : K} {g : Geom K}
    (hg : ucmGeometry S h dens vth tree veg = .ok g) :
    (1 - dens ≠ 0 ∧ vth ≠ 0 ∧ 0 ≤ dens ∧ S.sqrt dens ≠ 0 ∧ g.canWidth ≠ 0 ∧ g.canAspect ≠ 0) ∧
    g.vegcover = (1 - dens) * veg ∧ g.roadShad = min (tree / (1 - dens)) 1 ∧
    g.bldWidth = 4 * h * dens / vth ∧
    g.canWidth = g.bldWidth / S.sqrt dens - g.bldWidth ∧
    g.canAspect = h / g.canWidth ∧
    g.roadConf = roadConfOf (S.rpow (g.canAspect ^ 2 + 1) (1 / 2)) g.canAspect ∧
    g.wallConf = wallConfOf (S.rpow (g.canAspect ^ 2 + 1) (1 / 2)) g.canAspect ∧
    g.facArea = 4 * g.bldWidth * h ∧
    g.roadArea = g.bldWidth / S.sqrt dens * (g.bldWidth / S.sqrt dens) - g.bldWidth ^ 2 ∧
    g.roofArea = g.bldWidth ^ 2 := by
  unfold ucmGeometry at hg
  simp only [Except.ite_error_left_eq_ok] at hg
  obtain ⟨h1, h2, h3, h4, h5, h6, hg⟩ := hg
  cases hg
  exact ⟨⟨h1, h2, not_lt.mp h3, h4, h5, h6⟩, rfl, rfl, rfl, rfl, rfl, rfl, rfl, rfl, rfl, rfl⟩

omit [IsStrictOrderedRing K] in
theorem ucmGeometry_returns {S : Sym K} {h dens vth : K} (tree veg : K)
    (h1 : 1 - dens ≠ 0) (h2 : vth ≠ 0) (h3 : 0 ≤ dens) (h4 : S.sqrt dens ≠ 0)
    (h5 : 4 * h * dens / vth / S.sqrt dens - 4 * h * dens / vth ≠ 0)
    (h6 : h / (4 * h * dens / vth / S.sqrt dens - 4 * h * dens / vth) ≠ 0) :
    ∃ g, ucmGeometry S h dens vth tree veg = .ok g := by
  unfold ucmGeometry
  simp only [Except.ite_error_left_eq_ok]
  exact ⟨_, h1, h2, not_lt.mpr h3, h4, h5, h6, rfl⟩

section closure
variable {Ψr Ψw αr αw R B : K}

/-- `frImpl ≥ 1 − (1 − 2Ψw) = 2Ψw`. -/
theorem frImpl_pos (hΨr1 : Ψr ≤ 1) (hΨw : 0 < Ψw) (hΨw2 : 2 * Ψw ≤ 1)
    (hαr : 0 ≤ αr) (hαw : 0 ≤ αw) (hαw1 : αw ≤ 1) : 0 < frImpl Ψr Ψw αr αw := by
  have h1 : (1 - 2 * Ψw) * αw ≤ 1 - 2 * Ψw := mul_le_of_le_one_right (by linarith) hαw1
  have h2 : 0 ≤ (1 - Ψr) * Ψw * αr * αw :=
    mul_nonneg (mul_nonneg (mul_nonneg (sub_nonneg.mpr hΨr1) hΨw.le) hαr) hαw
  unfold frImpl
  linarith

/-- `frSpec ≥ 1 − (1 − 2Ψw) − Ψw = Ψw`: each of `1 − Ψr`, `αr`, `αw` is a fraction, so their product is at most 1. -/
theorem frSpec_pos (hΨr : 0 ≤ Ψr) (hΨw : 0 < Ψw) (hΨw2 : 2 * Ψw ≤ 1) (hαr : 0 ≤ αr) (hαr1 : αr ≤ 1)
    (hαw : 0 ≤ αw) (hαw1 : αw ≤ 1) : 0 < frSpec Ψr Ψw αr αw := by
  have h1 : (1 - 2 * Ψw) * αw ≤ 1 - 2 * Ψw := mul_le_of_le_one_right (by linarith) hαw1
  have h2 : (1 - Ψr) * αr * αw ≤ 1 :=
    mul_le_one₀ (mul_le_one₀ (sub_le_self 1 hΨr) hαr hαr1) hαw hαw1
  have h3 := mul_le_mul_of_nonneg_left h2 hΨw.le
  unfold frSpec
  linarith

theorem mw_nonneg {cl : Closure} (hfr : 0 < frOf cl Ψr Ψw αr αw) (hΨw : 0 ≤ Ψw)
    (hαr : 0 ≤ αr) (hαw : 0 ≤ αw) (hR : 0 ≤ R) (hB : 0 ≤ B) :
    0 ≤ mwOf cl Ψr Ψw αr αw R B := by
  unfold mwOf
  apply div_nonneg _ hfr.le
  positivity

theorem mr_nonneg {cl : Closure} (hfr : 0 < frOf cl Ψr Ψw αr αw) (hΨr1 : Ψr ≤ 1) (hΨw : 0 ≤ Ψw)
    (hαr : 0 ≤ αr) (hαw : 0 ≤ αw) (hR : 0 ≤ R) (hB : 0 ≤ B) :
    0 ≤ mrOf cl Ψr Ψw αr αw R B := by
  have h0 : 0 ≤ (1 - Ψr) * αr := mul_nonneg (sub_nonneg.mpr hΨr1) hαr
  have hrr : 0 ≤ αr * R := mul_nonneg hαr hR
  cases cl with
  | impl =>
    exact div_nonneg (add_nonneg hrr (mul_nonneg h0
      (add_nonneg (mul_nonneg hαw hB) (mul_nonneg (mul_nonneg hΨw hαw) hrr)))) hfr.le
  | spec => exact add_nonneg hrr (mul_nonneg h0 (mw_nonneg hfr hΨw hαr hαw hR hB))

theorem roadRec_wallRec_nonneg {cl : Closure} (hfr : 0 < frOf cl Ψr Ψw αr αw) (hΨr1 : Ψr ≤ 1)
    (hΨw : 0 ≤ Ψw) (hΨw2 : 2 * Ψw ≤ 1) (hαr : 0 ≤ αr) (hαw : 0 ≤ αw) (hR : 0 ≤ R) (hB : 0 ≤ B) :
    0 ≤ roadRecOf cl Ψr Ψw αr αw R B ∧ 0 ≤ wallRecOf cl Ψr Ψw αr αw R B := by
  have hmw := mw_nonneg hfr hΨw hαr hαw hR hB
  have hmr := mr_nonneg hfr hΨr1 hΨw hαr hαw hR hB
  exact ⟨add_nonneg hR (mul_nonneg (sub_nonneg.mpr hΨr1) hmw),
    add_nonneg (add_nonneg hB (mul_nonneg (sub_nonneg.mpr hΨw2) hmw)) (mul_nonneg hΨw hmr)⟩

end closure

/-- Under reciprocity `cB` is one minus a fraction with non-negative terms. (The denominator stays
    folded through `field_simp`, so that `hfr` applies to it as an atom; it is unfolded for `ring`.) -/
theorem cB_eq {a Ψr Ψw αr αw : K} (ha : a ≠ 0) (hrec : 2 * a * Ψw = 1 - Ψr)
    (hfr : frImpl Ψr Ψw αr αw ≠ 0) :
    cB a Ψr Ψw αr αw
      = 1 - αw * Ψw * (1 + αr * Ψr + 2 * αw * αr * (1 - Ψr)) / frImpl Ψr Ψw αr αw := by
  obtain rfl : Ψr = 1 - 2 * a * Ψw := by rw [hrec]; ring
  unfold cB
  field_simp
  unfold frImpl
  ring

/-- A form linear in the two first incidences stays below `entering` for all non-negative
    incidences iff both coefficients are at most one (test it on `(1, 0)` and `(0, 1/(2a))`). -/
theorem linear_le_entering_iff {p q a : K} (ha : 0 < a) :
    (∀ R B : K, 0 ≤ R → 0 ≤ B → p * R + q * (2 * a * B) ≤ entering a R B) ↔ p ≤ 1 ∧ q ≤ 1 := by
  unfold entering
  constructor
  · intro h
    have h1 := h 1 0 zero_le_one le_rfl
    have h2 := h 0 (1 / (2 * a)) le_rfl (by positivity)
    rw [mul_one_div_cancel (mul_pos two_pos ha).ne'] at h2
    constructor <;> linarith
  · rintro ⟨h1, h2⟩ R B hR hB
    have := mul_le_mul_of_nonneg_right h1 hR
    have := mul_le_mul_of_nonneg_right h2 (show 0 ≤ 2 * a * B by positivity)
    linarith

end Uwg.Canyon
