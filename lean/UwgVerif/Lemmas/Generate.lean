/-
Inversion lemmas for `Model/Generate.lean`: what a returning `stages` established (`Staged`), what a returning
`generateFull` / `generateFile` / `uwgMain` went through, the level search as `findIdx?`, the initial profiles of
`RSMDef.__init__`. Namespace `Uwg.Gen` is that of `Model/Generate`; the regenerated tables of `Gen/ParamTable` and
`Gen/RefTables` are declared in it too, and the C06 files and `Props/C19` open it for them.
-/
import UwgVerif.Model.Generate
import UwgVerif.Lemmas.RsmCoef

namespace Uwg.Gen
open Uwg.Step

theorem need_eq_ok {p : Prop} [Decidable p] {c : Cls} {s : Stage} {u : Unit} :
    need p c s = Except.ok u ↔ p := by
  unfold need
  split <;> simp_all

theorem rsmInit_ok {sym : Sym ℚ} {Pm : Rsm.Param ℚ} {refH nightH height t p : ℚ} {zm : List ℚ} {r : RsmInit}
    (h : rsmInit sym Pm refH nightH height t p zm = .ok r) :
    level (Rsm.mesoGrid zm).1 refH = some r.nzref ∧ r.z = (Rsm.mesoGrid zm).1 ∧ r.dz = (Rsm.mesoGrid zm).2 ∧
    r.nzfor = level (Rsm.mesoGrid zm).1 nightH ∧ r.z0r = 1 / 10 * height ∧ r.disp = 1 / 2 * height ∧
    initProfiles sym Pm r.nzref (Rsm.mesoGrid zm).2 t p = .ok r.st := by
  unfold rsmInit at h
  split at h
  · cases h
  · rename_i nzref hl
    split at h
    · cases h
    · rename_i st hst
      cases h
      exact ⟨hl, rfl, rfl, rfl, rfl, rfl, hst⟩

theorem ucmInit_ok {S : Sym ℚ} {i : Urb.UcmInitIn ℚ} {u : Urb.UcmInit ℚ} (h : Urb.ucmInit S i = .ok u) :
    Canyon.ucmGeometry S i.bldHeight i.bldDensity i.verToHor i.treeCoverage i.roadVeg = .ok u.geom ∧
    u.z0u = Urb.z0u i.bldHeight i.verToHor ∧ u.lDisp = Urb.lDisp i.bldHeight i.verToHor ∧
    u.canWind = i.initialWind ∧ u.ublWind = max i.initialWind i.windMin ∧
    u.facAbsor = Urb.facAbsor i.rGlaze i.albWall i.shgc := by
  unfold Urb.ucmInit at h
  split at h
  · cases h
  · rename_i gm hgm
    cases h
    exact ⟨hgm, rfl, rfl, rfl, rfl, rfl⟩

/-- What a returning `stages` established about its result `p`: the checks that passed, and every part the
    configuration is made of as a function of the arguments (so that what does not depend on the station record, or on
    the stock, can be read off). -/
structure Staged (S : Sym ℚ) (P : GenParams) (stock : Stock) (g : Epw.Ground) (first : Option Weather.Rec)
    (zm : List ℚ) (p : Parts) : Prop where
  sim : simParam P = .ok p.sim
  first_eq : first = some p.w
  ubl : Urb.ublInit P.charlength 250 = .ok p.ubl
  kroad : 0 < P.kroad
  croad : 0 < P.croad
  unbuilt : 1 - P.blddensity ≠ 0
  z : p.rsm.z = (Rsm.mesoGrid zm).1
  dz : p.rsm.dz = (Rsm.mesoGrid zm).2
  z0r : p.rsm.z0r = 1 / 10 * P.h_obs
  disp : p.rsm.disp = 1 / 2 * P.h_obs
  nzref : level (Rsm.mesoGrid zm).1 P.h_ref = some p.rsm.nzref
  nzfor : level (Rsm.mesoGrid zm).1 P.h_ubl2 = some p.nzfor
  profiles : initProfiles S (rsmParamOf P) p.rsm.nzref (Rsm.mesoGrid zm).2 p.w.temp p.w.pres = .ok p.rsm.st
  wind : p.w.umod = .num p.ucm.canWind
  geom : Canyon.ucmGeometry S P.bldheight P.blddensity P.vertohor P.treecover (roadVeg P) = .ok p.ucm.geom
  z0u : p.ucm.z0u = Urb.z0u P.bldheight P.vertohor
  lDisp : p.ucm.lDisp = Urb.lDisp P.bldheight P.vertohor
  ublWind : p.ucm.ublWind = max p.ucm.canWind P.windmin
  facAbsor : p.ucm.facAbsor = Urb.facAbsor stock.rGlaze stock.albWall stock.shgc
  column : Pipeline.roadColumn P.droad P.kroad P.croad g = .ok p.col.1 p.col.2

theorem stages_ok {S : Sym ℚ} {P : GenParams} {stock : Stock} {g : Epw.Ground} {first : Option Weather.Rec}
    {zm : List ℚ} {p : Parts} (h : stages S P stock g first zm = .ok p) : Staged S P stock g first zm p := by
  unfold stages at h
  simp only [Except.bind_eq_ok, Except.pure_eq_ok] at h
  obtain ⟨sim, hsim, w, hw, ubl, hubl, u1, hmat, u2, hden, u3, _, u4, _, rsm, hrsm, ucm, hucm, col, hcol, u5, _, u6, _,
    nzfor, hnz, rfl⟩ := h
  -- each `match` that wraps a constructor returns on one branch only
  have hw' : first = some w := by
    cases first with
    | none => cases hw
    | some w' => cases hw; rfl
  have hubl' : Urb.ublInit P.charlength 250 = .ok ubl := by
    split at hubl
    · rename_i u hu; cases hubl; exact hu
    · cases hubl
  obtain ⟨wind, hwind, hucm'⟩ : ∃ wind, w.umod = .num wind ∧
      Urb.ucmInit S { bldHeight := P.bldheight, bldDensity := P.blddensity, verToHor := P.vertohor,
                      treeCoverage := P.treecover, roadVeg := roadVeg P, roadAlbedo := P.albroad,
                      initialWind := wind, windMin := P.windmin, rGlaze := stock.rGlaze,
                      shgc := stock.shgc, albWall := stock.albWall } = .ok ucm := by
    split at hucm
    · split at hucm <;> cases hucm
    · rename_i wind hwind
      refine ⟨wind, hwind, ?_⟩
      split at hucm
      · cases hucm
      · rename_i u hu; cases hucm; exact hu
  have hcol' : Pipeline.roadColumn P.droad P.kroad P.croad g = .ok col.1 col.2 := by
    split at hcol
    · cases hcol
    · cases hcol
    · rename_i ls idx hc; cases hcol; exact hc
  have hnz' : rsm.nzfor = some nzfor := by
    split at hnz
    · rename_i n hn; cases hnz; exact hn
    · cases hnz
  unfold materialChecks at hmat
  simp only [Except.bind_eq_ok] at hmat
  obtain ⟨_, hk, hc⟩ := hmat
  obtain ⟨r1, r2, r3, r4, r5, r6, r7⟩ := rsmInit_ok hrsm
  obtain ⟨c1, c2, c3, c4, c5, c6⟩ := ucmInit_ok hucm'
  exact ⟨hsim, hw', hubl', need_eq_ok.mp hk, need_eq_ok.mp hc, need_eq_ok.mp hden, r2, r3, r5, r6, r1, r4 ▸ hnz', r7,
    c4 ▸ hwind, c1, c2, c3, c4 ▸ c5, c6, hcol'⟩

section
variable {S : Sym ℚ} {P : GenParams} {stock : Stock} {zm : List ℚ} {site : Epw.Site} {g : Epw.Ground}
  {first : Option Weather.Rec}

theorem generateFull_ok {x : Objects} (h : generateFull S P stock site g first zm = .ok x) :
    ∃ p, Staged S P stock g first zm p ∧ x.cfg = cfgOfParts S P stock site p ∧
      x.state = stateOfParts P stock p ∧ x.extra = extraOfParts S P p := by
  unfold generateFull at h
  split at h
  · cases h
  rename_i p hs
  cases h
  exact ⟨p, stages_ok hs, rfl, rfl, rfl⟩

theorem generateState_eq_ok {C : Cfg ℚ} {s : State ℚ} :
    generateState S P stock site g first zm = .ok (C, s) ↔
      ∃ x, generateFull S P stock site g first zm = .ok x ∧ x.cfg = C ∧ x.state = s := by
  unfold generateState generateFull
  cases stages S P stock g first zm with
  | error e => simp
  | ok p => simp

theorem generateState_ok {C : Cfg ℚ} {s : State ℚ} (h : generateState S P stock site g first zm = .ok (C, s)) :
    ∃ p, Staged S P stock g first zm p ∧ C = cfgOfParts S P stock site p ∧ s = stateOfParts P stock p := by
  obtain ⟨x, hx, rfl, rfl⟩ := generateState_eq_ok.1 h
  obtain ⟨p, hp, hc, hs, _⟩ := generateFull_ok hx
  exact ⟨p, hp, hc, hs⟩

theorem generateFile_eq_ok {hdr rows : List Csv.Row} {x : Objects} :
    generateFile S P stock zm hdr rows = .ok x ↔
      ∃ site g recs, Epw.readHeader hdr = .ok (site, g) ∧ P.dtweather = 3600 ∧
        Weather.read S (hdr ++ rows) (timeInitial P.month P.day) (timeFinal P.month P.day P.nday) = .ok recs ∧
        generateFull S P stock site g recs.head? zm = .ok x := by
  unfold generateFile
  constructor
  · intro h
    split at h
    · cases h
    rename_i site g hh
    split at h
    · cases h
    split at h
    · cases h
    rename_i hd
    split at h
    · cases h
    rename_i recs hr
    split at h
    · cases h
    rename_i y hg
    cases h
    exact ⟨site, g, recs, hh, by simpa using hd, hr, hg⟩
  · rintro ⟨site, g, recs, hh, hd, hr, hg⟩
    -- `SimParam` returned, since `generateFull` starts with it
    obtain ⟨p, a, _⟩ := generateFull_ok hg
    simp only [hh, a.sim, hd, hr, hg, ne_eq, not_true_eq_false, if_false]

theorem uwgMain_ok {p : Nat} {hdr rows : List Csv.Row} {text : List Char}
    (h : uwgMain S P stock zm p hdr rows = .ok text) :
    ∃ x, generateFile S P stock zm hdr rows = .ok x ∧
      Pipeline.pipeline S x.cfg (fun _ => x.state) P.droad P.kroad P.croad P.dtsim P.month P.day P.nday p hdr
        rows = .ok text := by
  unfold uwgMain at h
  split at h
  · cases h
  rename_i x hx
  split at h
  · cases h
  rename_i t ht
  cases h
  exact ⟨x, hx, ht⟩

end

/-- the test of the level search: `is_near_zero(z[iz] - h) or z[iz] > h` -/
def AtOrAbove (h x : ℚ) : Prop := Rsm.nearZero (x - h) = true ∨ x > h

instance (h x : ℚ) : Decidable (AtOrAbove h x) := by unfold AtOrAbove; infer_instance

/-- Levels are numbered from 1 (`self.nzref = iz + 1` at index `iz`), hence the `+ 1`; `i` entries came before `z`. -/
theorem levelFrom_eq (h : ℚ) : ∀ (z : List ℚ) (i : Nat),
    levelFrom h i z = (z.findIdx? fun x => decide (AtOrAbove h x)).map (· + (i + 1))
  | [], _ => rfl
  | a :: as, i => by
    rw [levelFrom, List.findIdx?_cons, levelFrom_eq h as (i + 1)]
    change (if AtOrAbove h a then _ else _) = _
    by_cases ha : AtOrAbove h a
    · rw [if_pos ha, if_pos (decide_eq_true ha)]; simp
    · rw [if_neg ha, if_neg (by simpa using ha), Option.map_map]
      congr 1; funext k; simp only [Function.comp]; omega

theorem presInitStep_set {sym : Sym ℚ} {Pm : Rsm.Param ℚ} {pInit : ℚ} {temp dz pres pres' : List ℚ} {iz : Nat}
    (h : presInitStep sym Pm pInit temp dz pres iz = .ok pres') : ∃ v, pres' = pres.set iz v := by
  unfold presInitStep at h
  simp only [Except.bind_eq_ok] at h
  obtain ⟨_, _, _, _, _, _, _, _, _, _, _, _, _, _, _, _, _, _, _, _, _, _, hset⟩ := h
  obtain ⟨_, rfl⟩ := Rsm.setC_eq_ok.mp hset
  exact ⟨_, rfl⟩

theorem initProfiles_ok {sym : Sym ℚ} {Pm : Rsm.Param ℚ} {nzref : Nat} {dz : List ℚ} {t p : ℚ} {st : Rsm.VdmState ℚ}
    (h : initProfiles sym Pm nzref dz t p = .ok st) :
    st.tempProf = List.replicate nzref t ∧ st.windProf = List.replicate nzref 1 ∧
    st.presProf.length = nzref ∧ st.tempRealProf.length = nzref ∧ st.densityProfC.length = nzref ∧
    st.densityProfS.length = nzref + 1 ∧ (1 ≤ nzref → st.presProf[0]? = some p) := by
  unfold initProfiles at h
  simp only [Except.bind_eq_ok, Except.pure_eq_ok] at h
  obtain ⟨pres, hpres, treal, htreal, dC, hdC, c0, _, dS1, hdS1, cl, _, dS, hdS, rfl⟩ := h
  -- the pressure loop of the constructor starts at level 1, so level 0 keeps the station pressure
  obtain ⟨lp, p0⟩ : pres.length = nzref ∧ pres[0]? = (List.replicate nzref p)[0]? := by
    refine Rsm.foldE_inv (fun l => l.length = nzref ∧ l[0]? = (List.replicate nzref p)[0]?) ?_
      ⟨List.length_replicate, rfl⟩ hpres
    rintro s i s' hi ⟨hl, h0⟩ hf
    obtain ⟨v, rfl⟩ := presInitStep_set hf
    have hi1 : 1 ≤ i := (List.mem_range'_1.mp hi).1
    exact ⟨List.length_set.trans hl, by rw [List.getElem?_set_ne (by omega)]; exact h0⟩
  have lt := (Rsm.storeLoop_ok 0 htreal).1
  have lc := (Rsm.storeLoop_ok 0 hdC).1
  have ls1 := (Rsm.storeLoop_ok 0 hdS1).1
  obtain ⟨_, rfl⟩ := Rsm.setC_eq_ok.mp hdS
  refine ⟨rfl, rfl, lp, by simpa using lt, by simpa using lc, by simpa using ls1, fun hn => ?_⟩
  rw [p0, List.getElem?_replicate, if_pos (by omega)]

end Uwg.Gen
