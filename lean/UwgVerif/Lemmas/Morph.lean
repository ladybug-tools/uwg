/-
Helper lemmas for the composition `Model/Morph.lean`: the window cut out of the file, which pass on which
rural row made a stored record, and the only way a valid run can fail.
-/
import UwgVerif.Model.Morph
import UwgVerif.Lemmas.Sim
import UwgVerif.Props.C02
import UwgVerif.Lemmas.Forall2

namespace Uwg.Morph
open Uwg.Csv Uwg.Sim Uwg.C02

variable {S R D Rec E : Type}

section
variable {α β : Type} {M Dy days : Nat} (hd : validDate M Dy) {file file' : List α}
include hd

theorem startRow_eq : startRow M Dy = 24 * dayOfYear0 M Dy := by
  unfold startRow timeInitial
  rw [Clock.init_julian hd]
  omega

theorem window_length (hfit : 24 * (dayOfYear0 M Dy + days) ≤ file.length) :
    (window M Dy days file).length = 24 * days := by
  unfold window
  rw [List.length_take, List.length_drop, Clock.init_julian hd]
  omega

theorem window_getElem? {n : Nat} (hn : n < 24 * days) :
    (window M Dy days file)[n]? = file[24 * dayOfYear0 M Dy + n]? := by
  unfold window
  rw [List.getElem?_take, Clock.init_julian hd]
  simp [hn, List.getElem?_drop]

theorem window_map_take_congr (f : α → β) {h : Nat} (hh : h < 24 * days)
    (hagree : ∀ n, n ≤ h → (file[24 * dayOfYear0 M Dy + n]?).map f = (file'[24 * dayOfYear0 M Dy + n]?).map f) :
    ((window M Dy days file).map f).take (h + 1) = ((window M Dy days file').map f).take (h + 1) := by
  apply List.ext_getElem?
  intro i
  rw [List.getElem?_take, List.getElem?_take]
  split
  · have hi : i < 24 * days := by omega
    rw [List.getElem?_map, List.getElem?_map, window_getElem? hd hi, window_getElem? hd hi, hagree i (by omega)]
  · rfl

end

theorem weatherOk_iff (w : List Row) : weatherOk w = true ↔ w ≠ [] ∧ ∀ r ∈ w, 22 ≤ r.length := by
  simp [weatherOk]

section
variable (P : Phys S R D Rec E) (deep : StepTrace → D) (rows : List R)

/-- Record `x` was made by the record block from the post-state of a returning record pass on rural row `n`. -/
def MadeBy (n : Nat) (x : Rec) : Prop :=
  ∃ s0 s1 t r, t.recorded = true ∧ rows[n]? = some r ∧ P.step s0 t r (deep t) = .ok s1 ∧ x = P.record s1 t r

variable {P deep rows}

theorem runSteps_records {tr : List StepTrace} {s s' : S} {acc acc' : List Rec}
    (h : runSteps P deep rows tr s acc = .ok (s', acc')) :
    ∃ new, acc' = acc ++ new ∧ List.Forall₂ (fun ev => MadeBy P deep rows ev.2.2) (records tr) new := by
  fun_induction runSteps P deep rows tr s acc with
  | case1 =>
    cases h
    exact ⟨[], by simp, .nil⟩
  | case2 | case3 => cases h
  | case4 t ts s acc r hr s1 hp ih =>
    obtain ⟨new, rfl, hnew⟩ := ih h
    by_cases hrec : t.recorded = true
    · refine ⟨P.record s1 t r :: new, by simp [hrec], ?_⟩
      simp only [records, List.filterMap_cons, hrec, if_true]
      exact .cons ⟨s, s1, t, r, hrec, hr, hp, rfl⟩ hnew
    · refine ⟨new, by simp [hrec], ?_⟩
      simpa [records, List.filterMap_cons, hrec] using hnew

theorem runSteps_error_is_phys {tr : List StepTrace} (hrow : ∀ t ∈ tr, t.row < rows.length) {s : S}
    {acc acc' : List Rec} {e : SimErr E} (h : runSteps P deep rows tr s acc = .error (acc', e)) :
    ∃ pe, e = .phys pe := by
  fun_induction runSteps P deep rows tr s acc with
  | case1 => cases h
  | case2 t _ _ _ hr =>
    have := hrow t (List.mem_cons_self ..)
    rw [List.getElem?_eq_getElem this] at hr
    cases hr
  | case3 _ _ _ _ _ _ pe =>
    cases h
    exact ⟨pe, rfl⟩
  | case4 _ _ _ _ _ _ _ _ ih => exact ih (fun q hq => hrow q (List.mem_cons_of_mem _ hq)) h

end

section
variable {P : Phys S R D Rec E} {soil : Soil D} {dt M Dy days : Nat} {rows : List R} {s0 : S}

theorem simulate_prov {s' : S} {recs : List Rec} (hv : Valid ⟨dt, M, Dy, days, rows.length⟩)
    (h : simulate P soil dt M Dy days rows s0 = .ok (s', recs)) :
    recs.length = 24 * days ∧ ∀ n, n < 24 * days → ∃ x, recs[n]? = some x ∧ MadeBy P (deepAt soil) rows n x := by
  obtain ⟨tr, htr, hrec⟩ := records_eq ⟨dt, M, Dy, days, rows.length⟩ hv
  rw [simulate_of_driver_ok htr] at h
  obtain ⟨new, rfl, hnew⟩ := runSteps_records h
  rw [hrec] at hnew
  refine ⟨by simpa using hnew.length_eq.symm, fun n hn => ?_⟩
  exact hnew.getElem?_left (a := recSpec dt n) (n := n) (by simp [hn])

theorem simulate_error_is_phys {recs : List Rec} {e : SimErr E} (hv : Valid ⟨dt, M, Dy, days, rows.length⟩)
    (h : simulate P soil dt M Dy days rows s0 = .error (recs, e)) : ∃ pe, e = .phys pe := by
  obtain ⟨tr, htr, _, _, _, hrows, _⟩ := records_complete ⟨dt, M, Dy, days, rows.length⟩ hv
  rw [simulate_of_driver_ok htr] at h
  exact runSteps_error_is_phys (fun t ht => Nat.lt_of_lt_of_le (hrows t ht).1 hv.rows) h

end

end Uwg.Morph
