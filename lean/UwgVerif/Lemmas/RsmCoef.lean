import UwgVerif.Model.RsmCoef
import UwgVerif.Lemmas.Except
import Mathlib.Data.List.GetD
import Mathlib.Tactic.Positivity

/-!
What a *returned* value of the monadic model of `dissipation_bougeault`, `length_bougeault`,
`diffusion_coefficient` and of the profile part of `vdm` looks like, and the grid of
`RSMDef.__init__` (`mesoGrid`) entry by entry; for `Props/C16Coef.lean`. The constructor's profiles
are written by the same loops, so `Lemmas/Generate.lean` and `Props/Generate.lean` use the loop and
grid lemmas too.

A model function is inverted by
`simp only [Except.bind_eq_ok, Except.pure_eq_ok, idx_getD, pdiv_eq_ok, …] at h`: the looked-up
values come out as `l.getD i 0`, the form in which `GridOK`, `VdmHyp` and `C16.Admissible` speak
about list entries, so they can be substituted away. A loop `for i in range(n): out[i] = f(i)`
(`mapE`, `storeLoop`) is described by `out.length = n ∧ ∀ i < n, f i = .ok (out.getD i d)`
(`mapE_range`, `storeLoop_range`); `forall_mem_iff_getD` leads from there to `∀ x ∈ out, …` and
back.
-/

namespace Uwg.Rsm

section Basic
variable {α β σ ι : Type}

theorem idx_eq_ok {l : List α} {i : Nat} {v : α} : idx l i = Except.ok v ↔ l[i]? = some v := by
  unfold idx
  split <;> simp_all

theorem idx_mem {l : List α} {i : Nat} {v : α} (h : idx l i = Except.ok v) : v ∈ l :=
  List.mem_of_getElem? (idx_eq_ok.mp h)

theorem idx_lt {l : List α} {i : Nat} {v : α} (h : idx l i = Except.ok v) : i < l.length :=
  (List.getElem?_eq_some_iff.mp (idx_eq_ok.mp h)).1

theorem idx_getD {K : Type} [Zero K] {l : List K} {i : Nat} {v : K} :
    idx l i = Except.ok v ↔ i < l.length ∧ v = l.getD i 0 := by
  rw [idx_eq_ok, List.getElem?_eq_some_iff, ← exists_prop]
  exact exists_congr fun h => by rw [List.getD_eq_getElem _ _ h, eq_comm]

theorem getD_set_self {l : List α} {i : Nat} {v d : α} (h : i < l.length) :
    (l.set i v).getD i d = v := by
  simp [List.getD_eq_getElem?_getD, h]

theorem getD_set_ne {l : List α} {i j : Nat} {v d : α} (h : i ≠ j) :
    (l.set i v).getD j d = l.getD j d := by
  simp [List.getD_eq_getElem?_getD, h]

theorem getD_concat {l : List α} {i : Nat} {v d : α} (h : l.length = i) :
    (l ++ [v]).getD i d = v := by
  subst h
  simp [List.getD_eq_getElem?_getD]

theorem forall_mem_iff_getD {Q : α → Prop} {l : List α} {n : Nat} (d : α) (hl : l.length = n) :
    (∀ x ∈ l, Q x) ↔ ∀ i, i < n → Q (l.getD i d) := by
  subst hl
  rw [List.forall_mem_iff_getElem]
  exact forall₂_congr fun i hi => by rw [List.getD_eq_getElem _ _ hi]

theorem idxPred_mem {l : List α} {n : Nat} {v : α} (h : idxPred l n = Except.ok v) : v ∈ l := by
  unfold idxPred at h
  split at h
  · split at h
    · rename_i w hw
      cases h
      exact List.mem_of_getLast? hw
    · cases h
  · exact idx_mem h

theorem setC_eq_ok {l l' : List α} {i : Nat} {v : α} :
    setC l i v = Except.ok l' ↔ i < l.length ∧ l' = l.set i v := by
  unfold setC
  split <;> simp_all [eq_comm]

theorem liftPy_eq_ok {x : Except PyErr α} {a : α} : liftPy x = Except.ok a ↔ x = Except.ok a := by
  cases x <;> simp [liftPy]

theorem foldE_inv {f : σ → ι → R σ} (P : σ → Prop) {l : List ι}
    (step : ∀ {s i s'}, i ∈ l → P s → f s i = Except.ok s' → P s') {s s' : σ} (hs : P s)
    (h : foldE f s l = Except.ok s') : P s' := by
  induction l generalizing s with
  | nil => cases h; exact hs
  | cons i is ih =>
    simp only [foldE] at h
    split at h
    · cases h
    · rename_i s1 h1
      exact ih (fun hi => step (List.mem_cons_of_mem _ hi)) (step List.mem_cons_self hs h1) h

theorem mapE_ok {f : ι → R β} : ∀ {l : List ι} {bs : List β},
    mapE f l = Except.ok bs → l.map f = bs.map Except.ok
  | [], _, h => by cases h; rfl
  | i :: is, _, h => by
    simp only [mapE] at h
    split at h
    · cases h
    · rename_i b hb
      split at h
      · cases h
      · rename_i bs' hbs
        cases h
        simp [hb, mapE_ok hbs]

theorem mapE_getD {f : ι → R β} {l : List ι} {bs : List β} (d : β)
    (h : mapE f l = Except.ok bs) :
    bs.length = l.length ∧ ∀ i (hi : i < l.length), f l[i] = Except.ok (bs.getD i d) := by
  have e := mapE_ok h
  have hl : bs.length = l.length := by simpa using (congrArg List.length e).symm
  refine ⟨hl, fun i hi => ?_⟩
  have := congrArg (·[i]?) e
  simpa [hi, hl ▸ hi, List.getD_eq_getElem?_getD] using this

theorem mapE_range {f : Nat → R β} {n : Nat} {bs : List β} (d : β)
    (h : mapE f (List.range n) = Except.ok bs) :
    bs.length = n ∧ ∀ i, i < n → f i = Except.ok (bs.getD i d) := by
  simpa only [List.length_range, List.getElem_range] using mapE_getD d h

theorem storeLoop_ok {f : Nat → R α} (d : α) {is : List Nat} {l l' : List α}
    (h : storeLoop f l is = Except.ok l') :
    l'.length = l.length ∧
    (∀ j, j ∉ is → l'.getD j d = l.getD j d) ∧
    (∀ j, j ∈ is → f j = Except.ok (l'.getD j d)) := by
  induction is generalizing l with
  | nil =>
    cases h
    simp
  | cons i is ih =>
    simp only [storeLoop] at h
    split at h
    · cases h
    · rename_i v hv
      split at h
      · cases h
      · rename_i l1 hl1
        obtain ⟨hi, rfl⟩ := setC_eq_ok.mp hl1
        obtain ⟨hlen, hout, hin⟩ := ih h
        refine ⟨by simpa using hlen, ?_, ?_⟩
        · intro j hj
          rw [List.mem_cons, not_or] at hj
          rw [hout j hj.2, getD_set_ne (Ne.symm hj.1)]
        · intro j hj
          by_cases hjis : j ∈ is
          · exact hin j hjis
          · obtain rfl := (List.mem_cons.mp hj).resolve_right hjis
            rw [hout j hjis, getD_set_self hi]
            exact hv

theorem storeLoop_range {f : Nat → R α} {l l' : List α} {n : Nat} (d : α) (hl : l.length = n)
    (h : storeLoop f l (List.range n) = Except.ok l') :
    l'.length = n ∧ ∀ i, i < n → f i = Except.ok (l'.getD i d) := by
  obtain ⟨hlen, _, hin⟩ := storeLoop_ok d h
  exact ⟨hlen.trans hl, fun i hi => hin i (List.mem_range.mpr hi)⟩

end Basic

section Grid
variable {K : Type} [Field K]

theorem mesoGrid_eq_zipWith : ∀ zm : List K,
    mesoGrid zm = (List.zipWith (fun a b => 1 / 2 * (a + b)) zm zm.tail,
                   List.zipWith (fun a b => b - a) zm zm.tail)
  | [] => rfl
  | [_] => rfl
  | a :: b :: rest => by
    rw [mesoGrid, mesoGrid_eq_zipWith (b :: rest)]
    rfl

theorem mesoGrid_length (zm : List K) :
    (mesoGrid zm).1.length = zm.length - 1 ∧ (mesoGrid zm).2.length = zm.length - 1 := by
  simp [mesoGrid_eq_zipWith]

theorem mesoGrid_getD (zm : List K) (i : Nat) (hi : i + 1 < zm.length) :
    (mesoGrid zm).1.getD i 0 = 1 / 2 * (zm.getD i 0 + zm.getD (i + 1) 0) ∧
    (mesoGrid zm).2.getD i 0 = zm.getD (i + 1) 0 - zm.getD i 0 := by
  have h0 : i < zm.length := by omega
  simp only [mesoGrid_eq_zipWith, List.getD_eq_getElem?_getD, List.getElem?_zipWith,
    List.getElem?_tail, List.getElem?_eq_getElem hi, List.getElem?_eq_getElem h0, Option.getD_some,
    and_self]

end Grid

-- The model is stated over a linearly ordered field; a lemma below that does not need
-- `IsStrictOrderedRing K` takes it along with the other two.
set_option linter.unusedSectionVars false
variable {K : Type} [Field K] [LinearOrder K] [IsStrictOrderedRing K]

theorem pdiv_eq_ok {a b c : K} : pdiv a b = Except.ok c ↔ b ≠ 0 ∧ c = a / b := by
  unfold pdiv
  split <;> simp_all [eq_comm]

theorem psqrt_eq_ok {s : Sym K} {x y : K} : psqrt s x = Except.ok y ↔ 0 ≤ x ∧ y = s.sqrt x := by
  unfold psqrt
  split <;> simp_all [eq_comm]

theorem plog_ok {s : Sym K} {x y : K} : plog s x = Except.ok y ↔ 0 < x ∧ y = s.log x := by
  unfold plog
  split <;> simp_all [eq_comm]

variable {sym : Sym K} {P : Param K} {z dz te pt : List K} {nz : Nat}

theorem teProfile_ok {rho tempRur heatRur ustar lengthRur : K}
    (h : teProfile sym P rho tempRur heatRur ustar lengthRur nz z = Except.ok te) :
    te.length = nz ∧ ∀ x ∈ te, 1 / 100 ≤ x := by
  unfold teProfile at h
  split at h
  · simp only [Except.bind_eq_ok] at h
    obtain ⟨a, _, b, _, c, _, d, _, h⟩ := h
    obtain ⟨hl, hf⟩ := mapE_range 0 h
    refine ⟨hl, (forall_mem_iff_getD 0 hl).mpr fun i hi => ?_⟩
    have hx := hf i hi
    simp only [Except.bind_eq_ok, Except.pure_eq_ok] at hx
    obtain ⟨ziz, _, q, _, hx⟩ := hx
    rw [← hx]
    exact le_max_right _ _
  · cases h
    exact ⟨by simp, List.forall_mem_map.mpr fun _ _ => le_max_right _ _⟩

/-- A step of the upward scan leaves `len` as it is or overwrites it with some `max 1 _`; so, with
    `l0` the value the scan starts from, `len = l0 ∨ 1 ≤ len` is an invariant of the scan. -/
theorem upStep_len {beta l0 : K} {iz izz : Nat} {st st' : Scan K} (hs : st.len = l0 ∨ 1 ≤ st.len)
    (h : upStep sym beta dz te pt iz st izz = Except.ok st') : st'.len = l0 ∨ 1 ≤ st'.len := by
  unfold upStep at h
  simp only [Except.bind_eq_ok] at h
  obtain ⟨dzA, _, dzB, _, ptiz, _, ptA, _, ptB, _, teiz, _, h⟩ := h
  split at h
  · simp only [Except.bind_eq_ok, Except.pure_eq_ok] at h
    obtain ⟨bbb, _, tl, _, rfl⟩ := h
    exact Or.inr (le_max_left _ _)
  · obtain rfl := Except.pure_eq_ok.mp h
    exact hs

/-- The same for the downward scan: `dnStep` differs from `upStep` in indices and signs of
    quantities that the proof discards. -/
theorem dnStep_len {beta l0 : K} {iz j : Nat} {st st' : Scan K} (hs : st.len = l0 ∨ 1 ≤ st.len)
    (h : dnStep sym beta dz te pt iz st j = Except.ok st') : st'.len = l0 ∨ 1 ≤ st'.len := by
  unfold dnStep at h
  simp only [Except.bind_eq_ok] at h
  obtain ⟨dzA, _, dzB, _, ptiz, _, ptA, _, ptB, _, teiz, _, h⟩ := h
  split at h
  · simp only [Except.bind_eq_ok, Except.pure_eq_ok] at h
    obtain ⟨bbb, _, tl, _, rfl⟩ := h
    exact Or.inr (le_max_left _ _)
  · obtain rfl := Except.pure_eq_ok.mp h
    exact hs

/-- `r.1` is the new `dld`, `r.2.2` is `dlk`. About `dls` (`r.2.1`) nothing is said:
    `diffusion_coefficient` never reads it. -/
theorem lengthBougeault_ok {dld dlu : List K} {r : List K × List K × List K}
    (h : lengthBougeault sym nz dld dlu z = Except.ok r) :
    ∀ i, i < nz →
      r.1.getD i 0 = min (dld.getD i 0) ((z.getD i 0 + z.getD (i + 1) 0) / 2) ∧
      r.2.2.getD i 0 = min (dlu.getD i 0) (r.1.getD i 0) := by
  unfold lengthBougeault at h
  simp only [Except.bind_eq_ok, Except.pure_eq_ok] at h
  obtain ⟨dlg, hdlg, rows, hrows, rfl⟩ := h
  intro i hi
  -- entry `i` of `dlg` is the cap and entry `i` of `rows` is `lengthAt` at `(i, dlg[i])`; the
  -- returned lists are `rows` component by component, so their entries `i` are those of `rows[i]`
  obtain ⟨hgl, hg⟩ := mapE_range 0 hdlg
  obtain ⟨hrl, hr⟩ := mapE_getD (0, 0, 0) hrows
  have hzl : ((List.range nz).zip dlg).length = nz := by
    rw [List.length_zip, List.length_range, hgl, Nat.min_self]
  have hgi := hg i hi
  have hri := hr i (hzl.symm ▸ hi)
  simp only [List.getElem_zip, List.getElem_range, lengthAt, Except.bind_eq_ok, Except.pure_eq_ok,
    idx_getD] at hgi hri
  obtain ⟨_, ⟨_, rfl⟩, _, ⟨_, rfl⟩, hgi⟩ := hgi
  obtain ⟨_, ⟨_, rfl⟩, _, ⟨_, rfl⟩, s, _, hri⟩ := hri
  rw [List.getD_append _ _ _ _ (by rwa [List.length_map, hrl, hzl]),
    List.getD_map _ ((0 : K), (0 : K), (0 : K)) (·.1),
    List.getD_map _ ((0 : K), (0 : K), (0 : K)) (·.2.2), ← hri, ← List.getD_eq_getElem dlg 0, hgi]
  exact ⟨rfl, rfl⟩

theorem ktAt_ok {dlk : List K} {i : Nat} {v : K}
    (h : ktAt sym dlk te i = Except.ok v) :
    0 ≤ te.getD i 0 ∧ v = 2 / 5 * dlk.getD i 0 * sym.sqrt (te.getD i 0) := by
  unfold ktAt at h
  simp only [Except.bind_eq_ok, Except.pure_eq_ok, idx_getD, psqrt_eq_ok] at h
  obtain ⟨_, ⟨_, rfl⟩, _, ⟨_, rfl⟩, _, ⟨h0, rfl⟩, rfl⟩ := h
  exact ⟨h0, rfl⟩

theorem diffusionCoefficient_ok {rho z0 disp tempRur heatRur uref : K} {th : List K}
    {out : CoefOut K}
    (h : diffusionCoefficient sym P rho z dz z0 disp tempRur heatRur nz uref th = Except.ok out) :
    ∃ ustar lengthRur dld0 dls dlk kt0 last,
      teProfile sym P rho tempRur heatRur ustar lengthRur nz z = Except.ok out.te ∧
      dissipation sym P.g nz z dz out.te th = Except.ok (out.dlu, dld0) ∧
      lengthBougeault sym nz dld0 out.dlu z = Except.ok (out.dld, dls, dlk) ∧
      mapE (ktAt sym dlk out.te) (List.range nz) = Except.ok kt0 ∧
      idxPred (kt0 ++ [0]) nz = Except.ok last ∧ out.kt = kt0 ++ [last] := by
  unfold diffusionCoefficient at h
  simp only [Except.bind_eq_ok, Except.pure_eq_ok] at h
  obtain ⟨x, _, lg, _, ustar, _, a, _, b, _, c, _, te, hte, dl, hdl, lb, hlb, kt0, hkt0, last,
    hlast, rfl⟩ := h
  exact ⟨ustar, _, dl.2, lb.2.1, lb.2.2, kt0, last, hte, hdl, hlb, hkt0, hlast, rfl⟩

/-- Invariant of the downward pressure loop of `vdm` once levels `≥ k` are written. -/
def PInv (n k : Nat) (pres : List K) : Prop :=
  pres.length = n ∧ ∀ i, k ≤ i → i < n → 0 < pres.getD i 0

theorem PInv.set {n m : Nat} {pres : List K} {v : K} (h : PInv n (m + 1) pres) (hm : m < n)
    (hv : 0 < v) : PInv n m (pres.set m v) := by
  refine ⟨by rw [List.length_set, h.1], fun i hi hin => ?_⟩
  rcases Nat.eq_or_lt_of_le hi with rfl | hlt
  · rw [getD_set_self (h.1 ▸ hm)]; exact hv
  · rw [getD_set_ne (Nat.ne_of_lt hlt)]; exact h.2 i hlt hin

variable {fpres : K} {temp pres : List K} {nzref : Nat} {F : Forc K} {st : VdmState K}

/-- The value `presStep` stores is positive. -/
theorem presVal_pos (hpow : ∀ a b : K, 0 < a → 0 < b → 0 < sym.rpow a b)
    {r cp g fp p t1 t0 d : K} (hr : 0 < r) (hcp : 0 < cp) (hg : 0 ≤ g) (hf : 0 < fp) (hp : 0 < p)
    (h1 : 0 < t1) (h0 : 0 < t0) (hd : 0 < d) :
    0 < sym.rpow
      (sym.rpow p (r / cp) + g / cp * sym.rpow fp (r / cp) * (1 / t1 + 1 / t0) * (1 / 2) * d)
      (1 / (r / cp)) := by
  have hk : 0 < r / cp := div_pos hr hcp
  have hA := hpow p _ hp hk
  have hB := hpow fp _ hf hk
  exact hpow _ _ (by positivity) (by positivity)

section PressureLoop
variable {n : Nat} (hpow : ∀ a b : K, 0 < a → 0 < b → 0 < sym.rpow a b)
  (hr : 0 < P.r) (hcp : 0 < P.cp) (hg : 0 ≤ P.g) (hf : 0 < fpres)
  (ht : ∀ i, i < n → 0 < temp.getD i 0) (hdz : ∀ i, i < n → 0 < dz.getD i 0)
include hpow hr hcp hg hf ht hdz

theorem presStep_inv {pres' : List K} {m : Nat} (hm : m + 1 < n) (hinv : PInv n (m + 1) pres)
    (h : presStep sym P fpres temp dz pres (m + 1) = Except.ok pres') : PInv n m pres' := by
  unfold presStep at h
  simp only [Except.bind_eq_ok, idx_getD, pdiv_eq_ok, setC_eq_ok, Nat.add_sub_cancel] at h
  obtain ⟨_, ⟨_, rfl⟩, _, ⟨_, rfl⟩, _, ⟨_, rfl⟩, _, ⟨_, rfl⟩, _, ⟨_, rfl⟩, _, ⟨_, rfl⟩,
    _, ⟨_, rfl⟩, _, ⟨_, rfl⟩, _, ⟨_, rfl⟩, _, ⟨_, rfl⟩, _, ⟨_, rfl⟩, _, rfl⟩ := h
  exact hinv.set (by omega) (presVal_pos hpow hr hcp hg hf (hinv.2 _ le_rfl hm) (ht _ hm)
    (ht _ (by omega)) (hdz _ hm))

theorem presLoop_inv {m : Nat} {pres' : List K} (hm : m < n) (hinv : PInv n m pres)
    (h : foldE (presStep sym P fpres temp dz) pres (List.range' 1 m).reverse = Except.ok pres') :
    PInv n 0 pres' := by
  induction m generalizing pres with
  | zero =>
    cases h
    exact hinv
  | succ m ih =>
    rw [List.range'_concat, List.reverse_append] at h
    simp only [List.reverse_cons, List.reverse_nil, List.nil_append, List.singleton_append,
      foldE] at h
    split at h
    · cases h
    · rename_i pres1 h1
      rw [show 1 + 1 * m = m + 1 by omega] at h1
      exact ih (by omega) (presStep_inv hpow hr hcp hg hf ht hdz hm hinv h1) h

end PressureLoop

/-- The hypotheses on the vertical grid under which the start values of the two length scales and
    the cap `dlg` are non-negative: the top of every cell `iz < nz` lies below the centre of cell
    `nz`, and cell tops and the mid-points between cell centres lie at non-negative height. -/
structure GridOK (nz : Nat) (z dz : List K) : Prop where
  up : ∀ i, i < nz → 0 ≤ z.getD nz 0 - z.getD i 0 - dz.getD i 0 / 2
  down : ∀ i, i < nz → 0 ≤ z.getD i 0 + dz.getD i 0 / 2
  mid : ∀ i, i < nz → 0 ≤ (z.getD i 0 + z.getD (i + 1) 0) / 2

/-- Hypotheses under which the profile part of `vdm` produces positive pressures and densities
    (`C16.density_pos`); the list lengths are those the constructor establishes. -/
structure VdmHyp (P : Param K) (nzref : Nat) (dz : List K) (F : Forc K) (st : VdmState K) :
    Prop where
  nz_ge : 1 ≤ nzref
  r_pos : 0 < P.r
  cp_pos : 0 < P.cp
  g_nonneg : 0 ≤ P.g
  ftemp_pos : 0 < F.temp
  fpres_pos : 0 < F.pres
  len_temp : st.tempProf.length = nzref
  len_pres : st.presProf.length = nzref
  len_treal : st.tempRealProf.length = nzref
  len_dC : st.densityProfC.length = nzref
  len_dS : st.densityProfS.length = nzref + 1
  temp_pos : ∀ i, 1 ≤ i → i < nzref → 0 < st.tempProf.getD i 0
  ptop_pos : 0 < st.presProf.getD (nzref - 1) 0
  dz_pos : ∀ i, i ≤ nzref → 0 < dz.getD i 0

theorem VdmHyp.temp_set_pos (H : VdmHyp P nzref dz F st) :
    ∀ i, i < nzref → 0 < (st.tempProf.set 0 F.temp).getD i 0 := by
  intro i hi
  rcases Nat.eq_zero_or_pos i with rfl | h0
  · rw [getD_set_self (H.len_temp ▸ hi)]; exact H.ftemp_pos
  · rw [getD_set_ne (Nat.ne_of_lt h0)]; exact H.temp_pos i h0 hi

theorem realVal_pos (hpow : ∀ a b : K, 0 < a → 0 < b → 0 < sym.rpow a b) {v : K} {j : Nat}
    (hk : 0 < P.r / P.cp)
    (hf : 0 < fpres) (ht : 0 < temp.getD j 0) (hp : 0 < pres.getD j 0)
    (h : realVal sym P fpres temp pres j = Except.ok v) : 0 < v := by
  unfold realVal at h
  simp only [Except.bind_eq_ok, Except.pure_eq_ok, idx_getD, pdiv_eq_ok] at h
  obtain ⟨_, ⟨_, rfl⟩, _, ⟨_, rfl⟩, _, ⟨_, rfl⟩, _, ⟨_, rfl⟩, rfl⟩ := h
  exact mul_pos ht (hpow _ _ (div_pos hp hf) hk)

theorem densCVal_pos {v : K} {treal : List K} {j : Nat} (hr : 0 < P.r)
    (hp : 0 < pres.getD j 0) (ht : 0 < treal.getD j 0)
    (h : densCVal P pres treal j = Except.ok v) : 0 < v := by
  unfold densCVal at h
  simp only [Except.bind_eq_ok, idx_getD, pdiv_eq_ok] at h
  obtain ⟨_, ⟨_, rfl⟩, _, ⟨_, rfl⟩, _, ⟨_, rfl⟩, _, rfl⟩ := h
  exact div_pos (div_pos hp hr) ht

theorem densSVal_pos {v : K} {dC : List K} {j : Nat} (hc1 : 0 < dC.getD j 0)
    (hc0 : 0 < dC.getD (j - 1) 0) (hz0 : 0 < dz.getD (j - 1) 0) (hz1 : 0 < dz.getD j 0)
    (h : densSVal dC dz j = Except.ok v) : 0 < v := by
  unfold densSVal at h
  simp only [Except.bind_eq_ok, idx_getD, pdiv_eq_ok] at h
  obtain ⟨_, ⟨_, rfl⟩, _, ⟨_, rfl⟩, _, ⟨_, rfl⟩, _, ⟨_, rfl⟩, _, rfl⟩ := h
  positivity

/-- The first statement of `vdm`, `tempProf[0] = forc.temp`. -/
theorem vdmProfiles_temp {r : List K × List K × List K × List K × List K}
    (h : vdmProfiles sym P nzref dz F st = Except.ok r) :
    0 < st.tempProf.length ∧ r.1 = st.tempProf.set 0 F.temp := by
  unfold vdmProfiles at h
  simp only [Except.bind_eq_ok, Except.pure_eq_ok] at h
  obtain ⟨_, htemp, _, _, _, _, _, _, _, _, _, _, _, _, _, _, _, _, rfl⟩ := h
  exact setC_eq_ok.mp htemp

theorem vdmPre_ok {z0r disp sens : K} {pre : VdmPre K}
    (h : vdmPre sym P nzref z dz z0r disp F sens st = Except.ok pre) :
    vdmProfiles sym P nzref dz F st = Except.ok (pre.temp, pre.pres, pre.treal, pre.dC, pre.dS) ∧
    ∃ rho t0, diffusionCoefficient sym P rho z dz z0r disp t0 sens nzref F.wind pre.temp =
      Except.ok pre.coef := by
  unfold vdmPre at h
  simp only [Except.bind_eq_ok, Except.pure_eq_ok] at h
  obtain ⟨pr, hpr, rho, _, t0, _, co, hco, rfl⟩ := h
  exact ⟨hpr, rho, t0, hco⟩

end Uwg.Rsm
