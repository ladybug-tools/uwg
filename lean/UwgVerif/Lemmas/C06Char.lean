/-
C06 — ASCII case facts about `Char.toLower` / `Char.toUpper` (core has no lemmas about them).
-/
namespace Uwg.C06

theorem toLower_nat (c : Char) : c.toLower.toNat =
    if 65 ≤ c.toNat ∧ c.toNat ≤ 90 then c.toNat + 32 else c.toNat := by
  have guard : (c.val ≥ 'A'.val ∧ c.val ≤ 'Z'.val) ↔ (65 ≤ c.toNat ∧ c.toNat ≤ 90) := by
    rw [ge_iff_le, UInt32.le_iff_toNat_le, UInt32.le_iff_toNat_le]
    exact Iff.rfl
  unfold Char.toLower
  split
  · rename_i h
    have h1 := guard.1 h
    rw [if_pos h1]
    show (c.val + ('a'.val - 'A'.val)).toNat = c.toNat + 32
    rw [UInt32.toNat_add, show c.val.toNat = c.toNat from rfl, show ('a'.val - 'A'.val).toNat = 32 from rfl]
    omega
  · rename_i h
    rw [if_neg (mt guard.2 h)]

theorem toUpper_nat (c : Char) : c.toUpper.toNat =
    if 97 ≤ c.toNat ∧ c.toNat ≤ 122 then c.toNat - 32 else c.toNat := by
  have guard : ('a'.val ≤ c.val ∧ c.val ≤ 'z'.val) ↔ (97 ≤ c.toNat ∧ c.toNat ≤ 122) := by
    rw [UInt32.le_iff_toNat_le, UInt32.le_iff_toNat_le]
    exact Iff.rfl
  unfold Char.toUpper
  split
  · rename_i h
    have h1 := guard.1 h
    rw [if_pos h1]
    show (c.val + ('A'.val - 'a'.val)).toNat = c.toNat - 32
    rw [UInt32.toNat_add, show c.val.toNat = c.toNat from rfl,
      show ('A'.val - 'a'.val).toNat = 4294967264 from rfl]
    omega
  · rename_i h
    rw [if_neg (mt guard.2 h)]

/-- The reader's `clean` sees two things of a character: whether it is a space (those are filtered out) and what
    it is lower-cased to. -/
theorem case_variant {c d : Char} (h : d = c ∨ d = c.toUpper ∨ d = c.toLower) :
    d.toLower = c.toLower ∧ (d = ' ' ↔ c = ' ') := by
  have hsp : (' ' : Char).toNat = 32 := rfl
  simp only [← Char.toNat_inj, hsp]
  rcases h with rfl | rfl | rfl
  · exact ⟨rfl, Iff.rfl⟩
  · rw [toLower_nat c.toUpper, toUpper_nat c, toLower_nat c]
    split <;> (try split) <;> (try split) <;> omega
  · rw [toLower_nat c.toLower, toLower_nat c]
    split <;> (try split) <;> omega

end Uwg.C06
